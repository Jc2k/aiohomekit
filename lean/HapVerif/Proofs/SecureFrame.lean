import HapVerif.Model.SecureFrame
import HapVerif.Spec.Frames
import HapVerif.Proofs.Bytes

/-! The frame loop is used through `run`: the same loop without fuel or accumulator. -/

namespace HapVerif.SecureFrame
open HapVerif.Spec.Frames

/-- the length of the frame that the first two bytes of the buffer announce -/
abbrev St.need (s : St) : Nat := 2 + le16 (s.buf.take 2) + 16

/-- its ciphertext and tag -/
abbrev St.sealed (s : St) : Bytes := (s.buf.drop 2).take (le16 (s.buf.take 2) + 16)

abbrev St.next (s : St) : St := ⟨s.buf.drop s.need, s.ctr + 1⟩

theorem St.split (s : St) : s.buf.take 2 ++ s.sealed ++ s.next.buf = s.buf := by
  rw [List.append_assoc, St.next, St.need, Nat.add_assoc, ← List.drop_drop, List.take_append_drop, List.take_append_drop]

def run (op : Opener) (s : St) : List Bytes × Option St :=
  if s.buf.length < s.need then ([], some s) else
  match op s.ctr (s.buf.take 2) s.sealed with
  | none => ([], none)
  | some p => (run op s.next).map (p :: ·) id
termination_by s.buf.length
decreasing_by
  rw [List.length_drop]
  exact Nat.sub_lt (Nat.lt_of_lt_of_le (Nat.succ_pos _) (Nat.le_of_not_lt ‹_›)) (Nat.succ_pos _)

theorem run_nil (op : Opener) (c : Nat) : run op ⟨[], c⟩ = ([], some ⟨[], c⟩) := by
  rw [run]
  rfl

theorem loop_eq_run (op : Opener) (f : Nat) (s : St) (out : List Bytes) (hf : s.buf.length < f) :
    loop op f s out = (out ++ (run op s).1, (run op s).2) := by
  fun_induction loop op f s out
  next => cases hf
  next f s out h2 =>
    rw [run, if_pos (Nat.lt_add_right 16 (Nat.lt_add_right _ h2)), List.append_nil]
  next f s out h2 n exp h =>
    rw [run, if_pos h, List.append_nil]
  next f s out h2 n exp h hop =>
    rw [run, if_neg h, hop, List.append_nil]
  next f s out h2 n exp h p hop ih =>
    rw [run, if_neg h, hop, ih (by rw [List.length_drop]; omega), List.append_assoc]
    rfl

theorem recv_eq (op : Opener) (s : St) (data : Bytes) : recv op s data = run op ⟨s.buf ++ data, s.ctr⟩ :=
  loop_eq_run op _ _ [] (Nat.lt_succ_self _)

/-- as `Http.seq2` -/
def seq2 (r : List Bytes × Option St) (k : St → List Bytes × Option St) : List Bytes × Option St :=
  match r with
  | (o, none) => (o, none)
  | (o, some s) => (o ++ (k s).1, (k s).2)

theorem run_frame (op : Opener) (c : Nat) (hd ct tail : Bytes) (n : Nat) (hhd : hd.length = 2) (hn : le16 hd = n)
    (hct : ct.length = n + 16) :
    run op ⟨hd ++ ct ++ tail, c⟩ =
      match op c hd ct with
      | none => ([], none)
      | some p => seq2 ([p], some ⟨tail, c + 1⟩) (run op) := by
  subst hn
  have hl : (hd ++ ct).length = 2 + le16 hd + 16 := by
    rw [List.length_append, hhd, hct, Nat.add_assoc]
  have e1 : (hd ++ ct ++ tail).take 2 = hd := by
    rw [List.append_assoc, List.take_left' hhd]
  have e2 : ((hd ++ ct ++ tail).drop 2).take (le16 hd + 16) = ct := by
    rw [List.append_assoc, List.drop_left' hhd, List.take_left' hct]
  rw [run, St.next, St.sealed, St.need, e1, e2, List.drop_left' hl, if_neg]
  · rfl
  · rw [List.length_append, hl]
    exact Nat.not_lt.mpr (Nat.le_add_right ..)

theorem run_step_app (op : Opener) (s : St) (d : Bytes) (hexp : ¬ s.buf.length < s.need) :
    run op ⟨s.buf ++ d, s.ctr⟩ =
      match op s.ctr (s.buf.take 2) s.sealed with
      | none => ([], none)
      | some p => seq2 ([p], some ⟨s.next.buf ++ d, s.next.ctr⟩) (run op) := by
  have h : 2 + (le16 (s.buf.take 2) + 16) ≤ s.buf.length := Nat.add_assoc .. ▸ Nat.le_of_not_lt hexp
  have := run_frame op s.ctr (s.buf.take 2) s.sealed (s.next.buf ++ d) _
    (List.length_take_of_le (Nat.le_trans (Nat.le_add_right ..) h)) rfl
    (List.length_take_of_le (List.length_drop .. ▸ Nat.le_sub_of_add_le' h))
  rwa [← List.append_assoc, s.split] at this

theorem run_app (op : Opener) (d : Bytes) (s : St) :
    seq2 (run op s) (fun s' => run op ⟨s'.buf ++ d, s'.ctr⟩) = run op ⟨s.buf ++ d, s.ctr⟩ := by
  fun_induction run op s
  next => rfl
  next s h hop =>
    rw [run_step_app op s d h, hop]
    rfl
  next s h p hop ih =>
    rw [run_step_app op s d h, hop]
    simp only [seq2]
    rw [← ih]
    rcases run op s.next with ⟨o, _ | s'⟩ <;> rfl

theorem recv_recv (op : Opener) (s : St) (a b : Bytes) :
    seq2 (recv op s a) (fun s' => recv op s' b) = recv op s (a ++ b) := by
  simp only [recv_eq]
  exact List.append_assoc .. ▸ run_app op b ⟨s.buf ++ a, s.ctr⟩

theorem recvAll_eq_recv (op : Opener) (cs : List Bytes) : ∀ (c : Bytes) (s : St) (out : List Bytes),
    recvAll op s (c :: cs) out = (out ++ (recv op s (c ++ cs.flatten)).1, (recv op s (c ++ cs.flatten)).2) := by
  induction cs with
  | nil =>
    intro c s out
    rw [List.flatten_nil, List.append_nil, recvAll]
    rcases recv op s c with ⟨o, _ | s'⟩ <;> rfl
  | cons c2 cs ih =>
    intro c s out
    rw [List.flatten_cons, ← recv_recv, recvAll]
    rcases recv op s c with ⟨o, _ | s'⟩
    · rfl
    · simp only [ih, seq2, List.append_assoc]

-- `le16` of the two bytes is their `leToNat`, up to unfolding `natToLe 2`
theorem le16_natToLe (n : Nat) (h : n < 65536) : le16 (natToLe 2 n) = n :=
  (natToLe_val 2 n h :)

/-- `hopen`, `hlen`: what C05's `Aead` asks of the pair -/
theorem run_frames (sl : Sealer) (op : Opener) (hopen : ∀ c a p, op c a (sl c a p) = some p)
    (hlen : ∀ c a p, (sl c a p).length = p.length + 16) : ∀ (bs : List Bytes) (c : Nat) (tail : Bytes),
    (∀ b ∈ bs, b.length < 65536) →
    run op ⟨writeFrames sl c bs ++ tail, c⟩ = seq2 (bs, some ⟨tail, c + bs.length⟩) (run op) := by
  intro bs
  induction bs with
  | nil => intro c tail _; rfl
  | cons b bs ih =>
    intro c tail hb
    rw [writeFrames, List.append_assoc, run_frame op c _ _ _ _ (natToLe_length 2 _)
      (le16_natToLe _ (hb b List.mem_cons_self)) (hlen _ _ _), hopen]
    simp only [seq2]
    rw [ih (c + 1) tail (fun x hx => hb x (List.mem_cons_of_mem _ hx)), List.length_cons, Nat.add_assoc,
      Nat.add_comm 1]
    rfl

theorem readFrames_writeFrames (sl : Sealer) (op : Opener) (hopen : ∀ c a p, op c a (sl c a p) = some p)
    (hlen : ∀ c a p, (sl c a p).length = p.length + 16) : ∀ (bs : List Bytes) (c rf : Nat),
    (∀ b ∈ bs, b.length ≤ 1024) → bs.length ≤ rf → readFrames op rf c (writeFrames sl c bs) = some bs := by
  intro bs
  induction bs with
  | nil => intro c rf _ _; cases rf <;> rfl
  | cons b bs ih =>
    intro c rf hb hrf
    obtain ⟨rf', rfl⟩ := Nat.exists_eq_succ_of_ne_zero (Nat.ne_of_gt (Nat.lt_of_lt_of_le (Nat.succ_pos _) hrf))
    have hb0 := hb b List.mem_cons_self
    have hsl := hlen c (natToLe 2 b.length) b
    have hop := hopen c (natToLe 2 b.length) b
    rw [natToLe_two] at hsl hop
    simp only [writeFrames, natToLe_two, List.cons_append, List.nil_append, readFrames]
    rw [natToLe_two_val _ (by omega), if_neg (by simp only [List.length_append, hsl]; omega),
      List.take_left' hsl, List.drop_left' hsl, hop,
      ih (c + 1) rf' (fun x hx => hb x (List.mem_cons_of_mem _ hx)) (Nat.le_of_succ_le_succ hrf)]
    rfl

/-- the blocks `send_bytes` cuts a payload into -/
def cut (p : Bytes) : List Bytes :=
  if _ : p = [] then [] else p.take 1024 :: cut (p.drop 1024)
termination_by p.length
decreasing_by
  have := List.length_pos_iff.mpr (by assumption : p ≠ [])
  rw [List.length_drop]; omega

theorem cut_nil : cut [] = [] := by rw [cut, dif_pos rfl]

theorem cut_flatten (p : Bytes) : (cut p).flatten = p := by
  fun_induction cut p
  next => rfl
  next p _ ih => rw [List.flatten_cons, ih, List.take_append_drop]

theorem cut_size (p : Bytes) : ∀ ch ∈ cut p, 0 < ch.length ∧ ch.length ≤ 1024 := by
  fun_induction cut p
  next => nofun
  next p hp ih =>
    intro ch hch
    rcases List.mem_cons.mp hch with rfl | hch
    · have := List.length_pos_iff.mpr hp
      rw [List.length_take]; omega
    · exact ih ch hch

/-- a block that is not last has payload behind it -/
theorem cut_full (p : Bytes) : ∀ ch ∈ (cut p).dropLast, ch.length = 1024 := by
  fun_induction cut p
  next => nofun
  next p hp ih =>
    intro ch hch
    by_cases hd : p.drop 1024 = []
    · rw [hd, cut_nil] at hch
      cases hch
    · rw [List.dropLast_cons_of_ne_nil (by rw [cut, dif_neg hd]; exact List.cons_ne_nil _ _)] at hch
      rcases List.mem_cons.mp hch with rfl | hch
      · exact List.length_take_of_le (Nat.le_of_lt (Nat.lt_of_not_le (mt List.drop_eq_nil_iff.mpr hd)))
      · exact ih ch hch

theorem cut_length_le (p : Bytes) : (cut p).length ≤ p.length := by
  fun_induction cut p
  next => exact Nat.zero_le _
  next p hp ih =>
    have := List.length_pos_iff.mpr hp
    rw [List.length_cons]; rw [List.length_drop] at ih; omega

theorem sendAux_eq (sl : Sealer) (fuel c : Nat) (p : Bytes) (h : p.length ≤ fuel) :
    (sendAux sl fuel c p).1.flatten = writeFrames sl c (cut p) ∧ (sendAux sl fuel c p).2 = c + (cut p).length := by
  fun_induction sendAux sl fuel c p
  next =>
    rw [List.length_eq_zero_iff.mp (Nat.le_zero.mp h), cut_nil]
    exact ⟨rfl, rfl⟩
  next =>
    rw [cut_nil]
    exact ⟨rfl, rfl⟩
  next fuel c p hp cur lb r ih =>
    have := List.length_pos_iff.mpr hp
    obtain ⟨h1, h2⟩ := ih (by rw [List.length_drop]; omega)
    rw [cut, dif_neg hp, List.flatten_cons, List.flatten_cons, h1, h2, writeFrames, List.length_cons, List.append_assoc,
      Nat.add_assoc, Nat.add_comm 1]
    exact ⟨rfl, rfl⟩

end HapVerif.SecureFrame
