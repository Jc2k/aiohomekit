import HapVerif.Proofs.Tlv8Struct

/-! `tlv_array` on a separator-joined list; `encSeq` writes one. -/

namespace HapVerif.Tlv8
open HapVerif

/-- the fold step of `tlv_array`, with projections where the model destructures: equal by eta (`tlvArray_eq`) -/
def arrStep (b : Bytes) (acc : Nat × List Bytes) (it : Nat × UInt8 × Nat × Bytes) : Nat × List Bytes :=
  if it.2.1 = 0 then (it.1 + 2, acc.2 ++ [(b.drop acc.1).take (it.1 - acc.1)]) else acc

def arrEnd (b : Bytes) (r : Nat × List Bytes) : List Bytes :=
  if (b.drop r.1).isEmpty then r.2 else r.2 ++ [b.drop r.1]

theorem tlvArray_eq (b : Bytes) :
    tlvArray b = (iter b).map (fun items => arrEnd b (items.foldl (arrStep b) (0, []))) :=
  bind_pure_comp ..

theorem foldl_arrStep_of_ne_zero (b : Bytes) (items : List (Nat × UInt8 × Nat × Bytes)) (acc : Nat × List Bytes)
    (h : ∀ it ∈ items, it.2.1 ≠ 0) : items.foldl (arrStep b) acc = acc :=
  List.foldlRecOn (motive := (· = acc)) items _ rfl fun _ ha it hit => by rw [ha, arrStep, if_neg (h it hit)]

/-- `good`: what `Iter.segs` asks; `nz`: type 0 is the separator; `ne`: an empty item would leave two separators adjacent -/
structure GoodItem (segs : List (UInt8 × Bytes)) : Prop where
  good : GoodSegs segs
  nz : ∀ s ∈ segs, s.1 ≠ 0
  ne : segs ≠ []

def joinItems : List Bytes → Bytes
  | [] => []
  | [e] => e
  | e :: rest => e ++ [0, 0] ++ joinItems rest

theorem joinItems_cons_cons (a b : Bytes) (l : List Bytes) : joinItems (a :: b :: l) = a ++ [0, 0] ++ joinItems (b :: l) := rfl

theorem joinItems_eq_intercalate : ∀ es : List Bytes, joinItems es = ([0, 0] : Bytes).intercalate es
  | [] => rfl
  | [e] => by simp [joinItems, List.intercalate]
  | e :: e2 :: es => by
    rw [joinItems_cons_cons, joinItems_eq_intercalate (e2 :: es)]
    simp [List.intercalate, List.intersperse]

theorem joinItems_ne_nil : ∀ es : List Bytes, (∀ e ∈ es.head?, e ≠ []) → es ≠ [] → joinItems es ≠ []
  | [e], h, _ => h e rfl
  | e :: _ :: _, h, _ => List.append_ne_nil_of_left_ne_nil (List.append_ne_nil_of_left_ne_nil (h e rfl) _) _

theorem Iter.item {e : List (UInt8 × Bytes)} (h : GoodItem e) {tail : Bytes} (htail : ∀ t ∈ tail.head?, t = 0)
    (b : Bytes) (acc : Nat × List Bytes) {off : Nat} {items : List (Nat × UInt8 × Nat × Bytes)}
    (hr : Iter (off + (cat e).length) tail items) :
    ∃ its, its.foldl (arrStep b) acc = acc ∧ Iter off (cat e ++ tail) (its ++ items) := by
  obtain ⟨its, hi, hm⟩ := Iter.segs e h.good (fun s hs ht => h.nz s hs (htail _ ht)) hr
  refine ⟨its, foldl_arrStep_of_ne_zero b its acc fun it hit => h.nz (it.2.1, it.2.2.2) ?_, hi⟩
  rw [← hm]; exact List.mem_map_of_mem hit

theorem Iter.sep {off : Nat} {body : Bytes} {items : List (Nat × UInt8 × Nat × Bytes)} (hr : Iter (off + 2) body items) :
    Iter off (0 :: 0 :: body) ((off, 0, 0, []) :: items) :=
  Iter.cons_cons (fun f _ => by cases f <;> rfl) (Nat.le_refl _) hr

/-- `start`: where the item being read begins in the buffer `b`; `outs`: the items split off so far -/
theorem foldl_arrStep_joinItems : ∀ (encs : List (List (UInt8 × Bytes))), encs ≠ [] → (∀ e ∈ encs, GoodItem e) →
    ∀ (b : Bytes) (start : Nat) (outs : List Bytes), b.drop start = joinItems (encs.map cat) →
    ∃ items, Iter start (joinItems (encs.map cat)) items ∧
      arrEnd b (items.foldl (arrStep b) (start, outs)) = outs ++ encs.map cat
  | [e], _, hg, b, start, outs, hb => by
    have hge := hg e (List.mem_cons_self ..)
    obtain ⟨its, hfold, hi⟩ := Iter.item hge (tail := []) nofun b (start, outs) (Iter.nil _)
    rw [List.append_nil, List.append_nil] at hi
    refine ⟨its, hi, ?_⟩
    rw [hfold, arrEnd, hb]
    exact if_neg (mt List.isEmpty_iff.mp (cat_ne_nil hge.good hge.ne))
  | e :: e2 :: rest, _, hg, b, start, outs, hb => by
    have hge := hg e (List.mem_cons_self ..)
    rw [List.map_cons, List.map_cons, joinItems_cons_cons, ← List.map_cons] at hb ⊢
    have hb2 : b.drop (start + (cat e).length + 2) = joinItems ((e2 :: rest).map cat) := by
      rw [Nat.add_assoc, ← List.drop_drop, hb, List.drop_left' (by rw [List.length_append]; rfl)]
    -- the rest of the buffer ...
    obtain ⟨items2, hi2, hend⟩ := foldl_arrStep_joinItems (e2 :: rest) (List.cons_ne_nil _ _)
      (fun x hx => hg x (List.mem_cons_of_mem _ hx)) b (start + (cat e).length + 2) (outs ++ [cat e]) hb2
    -- ... after the separator, after the segments of `e`
    obtain ⟨its, hfold, hi⟩ := Iter.item hge (tail := 0 :: 0 :: _) (fun t ht => (Option.some.inj ht).symm) b
      (start, outs) hi2.sep
    refine ⟨its ++ (start + (cat e).length, 0, 0, []) :: items2, List.append_assoc .. ▸ hi, ?_⟩
    rw [List.foldl_append, hfold, List.foldl_cons, arrStep, if_pos rfl, hb, Nat.add_sub_cancel_left, List.append_assoc,
      List.take_left, hend, List.append_assoc]
    rfl

theorem tlvArray_joinItems (encs : List (List (UInt8 × Bytes))) (hne : encs ≠ []) (hg : ∀ e ∈ encs, GoodItem e) :
    tlvArray (joinItems (encs.map cat)) = .ok (encs.map cat) := by
  obtain ⟨items, hi, hend⟩ := foldl_arrStep_joinItems encs hne hg _ 0 [] rfl
  rw [tlvArray_eq, hi.iter]
  exact congrArg Except.ok hend

theorem encSeq_map {α} (s : Schema) (f : α → SVal) (g : α → Bytes) : ∀ (l : List α),
    (∀ a ∈ l, encStruct s (f a) = .ok (g a)) → encSeq s (l.map f) = .ok (joinItems (l.map g))
  | [], _ => rfl
  | [a], h => h a (List.mem_cons_self ..)
  | a :: a2 :: l, h => by
    have ih := encSeq_map s f g (a2 :: l) (fun x hx => h x (List.mem_cons_of_mem _ hx))
    rw [List.map_cons, List.map_cons] at ih ⊢
    rw [encSeq, h a (List.mem_cons_self ..), ih]
    · rfl
    · exact nofun

end HapVerif.Tlv8
