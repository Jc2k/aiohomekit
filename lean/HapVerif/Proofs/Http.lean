import HapVerif.Model.Http
import HapVerif.Proofs.ExceptDo

/-! Every phase of one `parse` call commutes with later input. -/

namespace HapVerif.Http

@[simp] theorem app_core (p d) : (app p d).core = p.core := rfl
@[simp] theorem app_raw (p d) : (app p d).raw = p.raw ++ d := rfl
theorem app_app (p a b) : app (app p a) b = app p (a ++ b) := by simp [app, List.append_assoc]
@[simp] theorem app_nil (p : P) : app p [] = p := by cases p; simp [app]
theorem app_fresh (d : Bytes) : app {} d = ⟨{}, d⟩ := rfl

theorem findCRLF_bound (l : Bytes) (i : Nat) (h : findCRLF l = some i) : i + 2 ≤ l.length := by
  fun_induction findCRLF l generalizing i
  next => cases h
  next => cases h
  -- CR LF at the front
  next => cases h; simp
  next a b t _ ih =>
    obtain ⟨j, hj, rfl⟩ := Option.map_eq_some_iff.mp h
    have := ih j hj
    simp only [List.length_cons] at this ⊢; omega

theorem findCRLF_app {l : Bytes} {i : Nat} (h : findCRLF l = some i) (d : Bytes) :
    findCRLF (l ++ d) = some i ∧ (l ++ d).take i = l.take i ∧ (l ++ d).drop (i + 2) = l.drop (i + 2) ++ d := by
  have happ : findCRLF (l ++ d) = some i := by
    fun_induction findCRLF l generalizing i
    next => cases h
    next => cases h
    -- CR LF at the front
    next a b t hc => cases h; simp [findCRLF, hc]
    next a b t hc ih =>
      obtain ⟨j, hj, rfl⟩ := Option.map_eq_some_iff.mp h
      have := ih hj
      simp only [List.cons_append] at this
      simp [findCRLF, hc, this]
  have hb := findCRLF_bound l i h
  exact ⟨happ, List.take_append_of_le_length (by omega), List.drop_append_of_le_length hb⟩

theorem headLoop_fuel (f1 f2 : Nat) (p : P) (h1 : p.raw.length < f1) (h2 : p.raw.length < f2) :
    headLoop f1 p = headLoop f2 p := by
  induction f1 generalizing f2 p with
  | zero => omega
  | succ f1 ih =>
    obtain _ | f2 := f2
    · omega
    rw [headLoop, headLoop]
    split
    · rfl
    · split
      · rfl
      · rename_i pos hpos
        have hb := findCRLF_bound _ _ hpos
        have hd : ∀ f, p.raw.length < f + 1 → (p.raw.drop (pos + 2)).length < f := fun f h => by
          rw [List.length_drop]; omega
        split
        · rfl
        · exact ih f2 _ (hd f1 h1) (hd f2 h2)

/-- the header loop with the fuel `norm` supplies, which the model's `do` block names at each call; `CP` likewise -/
def H (p : P) : Except Err P := headLoop (p.raw.length + 1) p

theorem H_of_state (p : P) (h : 2 ≤ p.core.state) : H p = .ok p := by
  rw [H, headLoop, if_pos h]

/-- turns a statement with fuel counted down by `k` into one about `H` -/
theorem H_of_headLoop (k : Nat) (p p' : P) (hlen : p'.raw.length ≤ p.raw.length)
    (h : headLoop (p.raw.length + 1 + k) p = headLoop (p.raw.length + 1) p') : H p = H p' := by
  rw [H, headLoop_fuel _ (p.raw.length + 1 + k) p (Nat.lt_succ_self _) (by omega), h]
  exact headLoop_fuel _ _ p' (Nat.lt_succ_of_le hlen) (Nat.lt_succ_self _)

theorem headLoop_app : ∀ (f : Nat) (p : P) (d : Bytes), p.raw.length < f →
    (headLoop f p >>= fun p1 => H (app p1 d)) = H (app p d) := by
  intro f p d hf
  fun_induction headLoop f p
  -- no fuel
  next => omega
  -- the header block is over
  next => rfl
  -- no complete line
  next => rfl
  -- a line that is rejected
  next f p hst pos hpos e he =>
    obtain ⟨e0, e1, e2⟩ := findCRLF_app hpos d
    simp only [H, headLoop, app_core, app_raw, hst, if_false, e0, e1, he]; rfl
  -- a line that is taken
  next f p hst pos hpos c hc ih =>
    have hb := findCRLF_bound _ _ hpos
    obtain ⟨e0, e1, e2⟩ := findCRLF_app hpos d
    rw [ih (by simp; omega)]
    conv => rhs; rw [H, headLoop]
    simp only [app_core, app_raw, hst, if_false, e0, e1, e2, hc]
    apply headLoop_fuel <;> simp [app] <;> omega

theorem H_app (p : P) (d : Bytes) : (H p >>= fun p1 => H (app p1 d)) = H (app p d) :=
  headLoop_app _ p d (Nat.lt_succ_self _)

theorem chunkLoop_fuel (f1 f2 : Nat) (p : P) (h1 : p.raw.length < f1) (h2 : p.raw.length < f2) :
    chunkLoop f1 p = chunkLoop f2 p := by
  induction f1 generalizing f2 p with
  | zero => omega
  | succ f1 ih =>
    obtain _ | f2 := f2
    · omega
    rw [chunkLoop, chunkLoop]
    split
    · rfl
    · rename_i pos hpos
      have hb := findCRLF_bound _ _ hpos
      split
      · rfl
      · rename_i len _
        have hd : ∀ f, p.raw.length < f + 1 → ((p.raw.drop (pos + 2)).drop (len + 2)).length < f := fun f h => by
          rw [List.length_drop, List.length_drop]; omega
        simp only [ih f2 ⟨_, (p.raw.drop (pos + 2)).drop (len + 2)⟩ (hd f1 h1) (hd f2 h2)]

def CP (p : P) : Except Err P := chunkPhase (p.raw.length + 1) p

theorem CP_of_not (p : P) (h : ¬ (p.core.state = 2 ∧ p.core.chunked = true)) : CP p = .ok p := by
  simp [CP, chunkPhase, h]

theorem CP_of_guard (p : P) (hst : p.core.state = 2) (hch : p.core.chunked = true) :
    CP p = chunkLoop (p.raw.length + 1) p := by
  simp [CP, chunkPhase, hst, hch]

theorem chunkLoop_app : ∀ (f : Nat) (p : P) (d : Bytes), p.raw.length < f →
    p.core.state = 2 → p.core.chunked = true →
    (chunkLoop f p >>= fun p1 => CP (app p1 d)) = CP (app p d) := by
  intro f p d hf hst hch
  fun_induction chunkLoop f p
  -- no fuel
  next => omega
  -- no complete line
  next => rfl
  -- not a chunk size
  next f p pos hpos hx =>
    obtain ⟨e0, e1, e2⟩ := findCRLF_app hpos d
    rw [CP_of_guard (app p d) hst hch, chunkLoop]
    simp only [app_raw, e0, e1, hx]; rfl
  -- the chunk is not there in full: put back
  next => rfl
  -- the zero chunk (`0 + 2` is the model's `len + 2`)
  next f p pos hpos rest hx hlen =>
    simp only [rest] at hlen ⊢
    obtain ⟨e0, e1, e2⟩ := findCRLF_app hpos d
    rw [Except.ok_bind, CP_of_not _ (by simp), CP_of_guard (app p d) hst hch, chunkLoop]
    have hlong : ¬ (0 + 2 > (p.raw.drop (pos + 2) ++ d).length) := by rw [List.length_append]; omega
    simp only [app_raw, app_core, e0, e1, e2, hx, hlong, if_false, if_true]
    rw [List.drop_append_of_le_length (by omega)]; rfl
  -- a chunk
  next f p pos hpos rest len hx hlen hz ih =>
    simp only [rest] at hlen ih ⊢
    have hb := findCRLF_bound _ _ hpos
    obtain ⟨e0, e1, e2⟩ := findCRLF_app hpos d
    rw [ih (by simp; omega) hst hch, CP_of_guard (app p d) hst hch]
    -- `by exact`: the parser is to be read off the goal, not off `hst`
    refine (CP_of_guard _ (by exact hst) (by exact hch)).trans ?_
    conv => rhs; rw [chunkLoop]
    have hlong : ¬ (len + 2 > (p.raw.drop (pos + 2) ++ d).length) := by rw [List.length_append]; omega
    simp only [app_raw, app_core, e0, e1, e2, hx, hlong, hz, if_false]
    rw [List.take_append_of_le_length (by omega), List.drop_append_of_le_length (by omega)]
    apply chunkLoop_fuel <;> simp <;> omega

theorem chunkLoop_core (f : Nat) (p p2 : P) (h : chunkLoop f p = .ok p2) (hs : 2 ≤ p.core.state) :
    p2.core = { p.core with body := p2.core.body, hadEmpty := p2.core.hadEmpty, state := p2.core.state } ∧
      2 ≤ p2.core.state := by
  fun_induction chunkLoop f p
  next => cases h; exact ⟨rfl, hs⟩
  next => cases h; exact ⟨rfl, hs⟩
  next => cases h
  next => cases h; exact ⟨rfl, hs⟩
  -- the zero chunk sets state 3
  next => cases h; exact ⟨rfl, Nat.le_succ 2⟩
  next ih => exact ih h hs

/-- body bytes still wanted -/
def need (c : Core) : Nat := if c.state = 2 then c.clen.getD 0 - c.body.length else 0

theorem bodyStep_eq (p : P) :
    bodyStep p = ⟨{ p.core with body := p.core.body ++ p.raw.take (need p.core) }, p.raw.drop (need p.core)⟩ := by
  unfold bodyStep need
  cases p.core.clen with
  | none => simp
  | some n =>
    dsimp only [Option.getD_some]
    by_cases hg : p.core.state = 2 ∧ n > 0
    · rw [if_pos hg, if_pos hg.1]
    · have h0 : (if p.core.state = 2 then n - p.core.body.length else 0) = 0 := by
        split
        · omega
        · rfl
      rw [if_neg hg, h0]
      simp

theorem need_body (c : Core) (t : Bytes) : need { c with body := c.body ++ t } = need c - t.length := by
  unfold need
  split
  · rw [List.length_append, Nat.sub_add_eq]
  · exact (Nat.zero_sub _).symm

theorem take_in_two_goes (raw d : Bytes) (r : Nat) :
    raw.take r ++ (raw.drop r ++ d).take (r - (raw.take r).length) = (raw ++ d).take r ∧
    (raw.drop r ++ d).drop (r - (raw.take r).length) = (raw ++ d).drop r := by
  rw [List.length_take]
  by_cases h : r ≤ raw.length
  · rw [Nat.min_eq_left h, Nat.sub_self, List.take_zero, List.append_nil, List.drop_zero,
      List.take_append_of_le_length h, List.drop_append_of_le_length h]
    exact ⟨rfl, rfl⟩
  · have hl : raw.length ≤ r := by omega
    rw [Nat.min_eq_right hl, List.drop_of_length_le hl, List.take_of_length_le hl, List.nil_append,
      List.take_append, List.drop_append, List.take_of_length_le hl, List.drop_of_length_le hl, List.nil_append]
    exact ⟨rfl, rfl⟩

theorem bodyStep_app (p : P) (d : Bytes) : bodyStep (app (bodyStep p) d) = bodyStep (app p d) := by
  obtain ⟨e1, e2⟩ := take_in_two_goes p.raw d (need p.core)
  rw [bodyStep_eq p, bodyStep_eq (app p d), bodyStep_eq (app _ d)]
  simp only [app_core, app_raw, need_body, List.append_assoc, e1, e2]

theorem bodyStep_noop (p : P) (h : need p.core = 0) : bodyStep p = p := by
  rw [bodyStep_eq, h, List.take_zero, List.append_nil, List.drop_zero]

theorem bodyStep_exact (c : Core) (b rest : Bytes) (hn : need c = b.length) :
    bodyStep ⟨c, b ++ rest⟩ = ⟨{ c with body := c.body ++ b }, rest⟩ := by
  rw [bodyStep_eq, hn, List.take_left, List.drop_left]

/-- a message must not carry both `Transfer-Encoding: chunked` and a positive `Content-Length` -/
def good (c : Core) : Prop := c.chunked = true → (c.clen = none ∨ c.clen = some 0)

theorem need_of_good (c : Core) (hch : c.chunked = true) (hg : good c) : need c = 0 := by
  unfold need
  rcases hg hch with h | h <;> simp [h]

/-- `norm` over `H` and `CP` -/
def norm' (p : P) : Except Err P := H p >>= fun p1 => CP p1 >>= fun p2 => pure (bodyStep p2)
theorem norm_eq (p : P) : norm p = norm' p := rfl

theorem norm'_of_state (p : P) (h : 2 ≤ p.core.state) : norm' p = CP p >>= fun p2 => pure (bodyStep p2) := by
  rw [norm', H_of_state p h, Except.ok_bind]

theorem norm_app (p : P) (d : Bytes)
    (hgood : ∀ p1, H p = .ok p1 → 2 ≤ p1.core.state → good p1.core) :
    (norm' p >>= fun p3 => norm' (app p3 d)) = norm' (app p d) := by
  rw [norm', norm', ← H_app p d]
  cases hp1 : H p with
  | error e => rfl
  | ok p1 =>
    simp only [Except.ok_bind]
    change _ = norm' (app p1 d)
    by_cases hst : 2 ≤ p1.core.state
    · rw [norm'_of_state (app p1 d) hst]
      by_cases hguard : p1.core.state = 2 ∧ p1.core.chunked = true
      · -- chunked body: neither other phase does anything
        rw [← chunkLoop_app _ p1 d (Nat.lt_succ_self _) hguard.1 hguard.2, CP_of_guard p1 hguard.1 hguard.2]
        cases hp2 : chunkLoop (p1.raw.length + 1) p1 with
        | error e => rfl
        | ok p2 =>
          obtain ⟨hc, hst2⟩ := chunkLoop_core _ _ _ hp2 hst
          have hg2 : good p2.core := by rw [hc]; exact hgood p1 hp1 hst
          have hch2 : p2.core.chunked = true := by rw [hc]; exact hguard.2
          simp only [Except.ok_bind, pure, Except.pure, bodyStep_noop p2 (need_of_good _ hch2 hg2)]
          exact norm'_of_state (app p2 d) hst2
      · -- otherwise only the body step runs
        have hg3 : ¬ ((bodyStep p1).core.state = 2 ∧ (bodyStep p1).core.chunked = true) := by
          rw [bodyStep_eq]; exact hguard
        rw [CP_of_not p1 hguard, CP_of_not (app p1 d) hguard]
        simp only [Except.ok_bind, pure, Except.pure]
        rw [norm'_of_state _ (by rw [app_core, bodyStep_eq]; exact hst), CP_of_not (app _ d) hg3, Except.ok_bind,
          bodyStep_app]
        rfl
    · -- still inside the header block
      rw [CP_of_not p1 (by omega), Except.ok_bind, bodyStep_noop p1 (if_neg (by omega))]; rfl

theorem parse_of_norm {p q : P} {part : Bytes} (h : norm' (app p part) = .ok q) :
    parse p part = .ok (q, if q.core.complete then q.raw else []) := by
  rw [parse, norm_eq, h, Except.ok_bind]
  split <;> rfl

end HapVerif.Http
