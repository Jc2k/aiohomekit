import HapVerif.Proofs.Bytes
import HapVerif.Proofs.BleMetaGen

/-! The two's-complement round trip; the `struct` rows of `controller/ble/structs.py` against `Model/BleMeta.lean`. -/

namespace HapVerif.BleMeta

theorem decodeInt_encodeInt (f : IntFmt) (hw : 0 < f.width) (v : Int) (h : inRange f v) :
    decodeInt f (encodeInt f v) = v := by
  obtain ⟨w, s⟩ := f
  have hH : 2 ^ (8 * w) = 2 * 2 ^ (8 * w - 1) := by
    rw [← Nat.pow_succ', Nat.succ_eq_add_one, Nat.sub_add_cancel (Nat.mul_pos (by decide) hw)]
  have hMpos : (0 : Int) < ((2 ^ (8 * w) : Nat) : Int) := Int.natCast_pos.2 (Nat.pow_pos (by decide))
  obtain ⟨n, hn⟩ := Int.eq_ofNat_of_zero_le (Int.emod_nonneg v (Int.ne_of_gt hMpos))
  unfold decodeInt encodeInt inRange at *
  -- the bytes hold `v mod 2 ^ (8 * w)`
  rw [hn, Int.toNat_natCast, natToLe_val w n (Nat.pow_mul 2 8 w ▸ Int.ofNat_lt.1 (hn ▸ Int.emod_lt_of_pos v hMpos))]
  generalize 2 ^ (8 * w - 1) = H at *
  generalize 2 ^ (8 * w) = M at *
  cases s
  · simp only [Bool.false_eq_true, ↓reduceIte, Bool.false_and] at h ⊢
    rw [← hn, Int.emod_eq_of_lt h.1 h.2]
  · simp only [↓reduceIte, Bool.true_and, decide_eq_true_eq] at h ⊢
    -- the signed reading is the balanced remainder, which leaves a value of the range alone
    have hb := Int.bmod_eq_of_le_mul_two (x := v) (y := M) (by omega) (by omega)
    rw [Int.bmod_def, hn] at hb
    omega

theorem intFmt_width_pos (code : Nat) (f : IntFmt) : intFmt code = some f → 0 < f.width := by
  fun_cases intFmt code
  -- the five literal formats
  iterate 5
    next =>
      intro h
      cases h
      decide
  -- no format
  next => exact nofun

theorem encodeInt_length (f : IntFmt) (v : Int) : (encodeInt f v).length = f.width :=
  natToLe_length _ _

theorem minMax_of_length {code : Nat} {f : IntFmt} (hf : intFmt code = some f) {b : Bytes}
    (hl : b.length = 2 * f.width) :
    minMax code b = .ints (decodeInt f (b.take f.width)) (decodeInt f (b.drop f.width)) := by
  unfold minMax
  rw [List.isEmpty_eq_false_iff.2
    (List.ne_nil_of_length_pos (hl ▸ Nat.mul_pos (by decide) (intFmt_width_pos code f hf)))]
  simp only [Bool.false_eq_true, ↓reduceIte, hf, hl]

theorem minStep_of_length {code : Nat} {f : IntFmt} (hf : intFmt code = some f) {b : Bytes} (hl : b.length = f.width) :
    minStep code b = .int (decodeInt f b) := by
  unfold minStep
  rw [List.isEmpty_eq_false_iff.2 (List.ne_nil_of_length_pos (hl ▸ intFmt_width_pos code f hf))]
  simp only [Bool.false_eq_true, ↓reduceIte, hf, hl]

end HapVerif.BleMeta

namespace HapVerif.BleMetaGen
open HapVerif HapVerif.BleMeta

/-- what `struct.unpack` makes of the bytes of one item -/
def val : Item → Bytes → Val
  | .int f, b => .int (decodeInt f b)
  | .f32, b => .f32 b

theorem unpack_cons (it : Item) (rest : List Item) (b : Bytes) :
    unpack (it :: rest) b =
      if b.length < it.size then none else (unpack rest (b.drop it.size)).map (val it (b.take it.size) :: ·) := by
  cases it <;> rw [unpack] <;> cases unpack rest (b.drop _) <;> rfl

theorem unpack_nil (b : Bytes) : unpack [] b = if b.length = 0 then some [] else none := by
  cases b <;> rfl

theorem unpack_one (it : Item) (b : Bytes) :
    unpack [it] b = if b.length = it.size then some [val it b] else none := by
  rw [unpack_cons, unpack_nil, List.length_drop]
  by_cases h : b.length = it.size
  · rw [if_neg (by omega), if_pos (by omega), if_pos h, List.take_of_length_le (by omega)]
    rfl
  · rw [if_neg h]
    split
    · rfl
    · rw [if_neg (by omega)]
      rfl

theorem unpack_pair (i1 i2 : Item) (b : Bytes) :
    unpack [i1, i2] b = if b.length = i1.size + i2.size then
      some [val i1 (b.take i1.size), val i2 (b.drop i1.size)] else none := by
  rw [unpack_cons, unpack_one, List.length_drop]
  by_cases h : b.length = i1.size + i2.size
  · rw [if_neg (by omega), if_pos (by omega), if_pos h]
    rfl
  · rw [if_neg h]
    split
    · rfl
    · rw [if_neg (by omega)]
      rfl

/-- `none`: no row for `code`; `some none`: a row whose format string does not parse -/
def rowItems (rows : List (Nat × String × String)) (code : Nat) : Option (Option (List Item)) :=
  (lookup rows code).map fun r => items r.1

/-- the rows of `_unpack_value` that take `[0]` of a struct -/
def firstItems (rows : List (Nat × String × String)) (code : Nat) : Option (Option (List Item)) :=
  (lookup rows code).bind fun r => if r.1 = "" || r.2 != "first" then none else some (items r.1)

theorem rangeByTable_eq (rows : List (Nat × String × String)) (code : Nat) (b : Bytes) :
    rangeByTable rows code b = if b.isEmpty then .none else
      match rowItems rows code with
      | none => .none
      | some none => .error
      | some (some its) => match unpack its b with
        | some [.int lo, .int hi] => .ints lo hi
        | some [.f32 lo, .f32 hi] => .floats lo hi
        | _ => .error := by
  unfold rangeByTable rowItems
  rcases lookup rows code with _ | ⟨fmt, how⟩
  · rfl
  · simp only [Option.map_some]
    cases items fmt <;> rfl

theorem stepByTable_eq (rows : List (Nat × String × String)) (code : Nat) (b : Bytes) :
    stepByTable rows code b = if b.isEmpty then .none else
      match firstItems rows code with
      | none => .other
      | some none => .error
      | some (some its) => match unpack its b with
        | some [.int v] => .int v
        | some [.f32 v] => .float v
        | _ => .error := by
  unfold stepByTable firstItems
  rcases lookup rows code with _ | ⟨fmt, how⟩
  · rfl
  · rw [Option.bind_some]
    by_cases hc : (decide (fmt = "") || how != "first") = true
    · simp only [hc, ↓reduceIte]
    · simp only [hc]
      cases items fmt <;> rfl

/-- what the model's if-chains expect of the tables -/
def modelItems (code : Nat) (n : Nat) : Option (Option (List Item)) :=
  match intFmt code with
  | some f => some (some (List.replicate n (.int f)))
  | none => if code = floatCode then some (some (List.replicate n .f32)) else none

theorem tie_of_items {rR uR : List (Nat × String × String)} {code : Nat} (b : Bytes)
    (h : rowItems rR code = modelItems code 2 ∧ firstItems uR code = modelItems code 1) :
    rangeByTable rR code b = minMax code b ∧ stepByTable uR code b = minStep code b := by
  rw [rangeByTable_eq, stepByTable_eq, h.1, h.2]
  unfold modelItems minMax minStep
  by_cases he : b.isEmpty = true
  · simp only [he, ↓reduceIte, and_self]
  cases intFmt code with
  | some f =>
    simp only [List.replicate, unpack_pair, unpack_one, val, Item.size, ← Nat.two_mul]
    constructor
    · by_cases h : b.length = 2 * f.width <;> simp only [h, ↓reduceIte]
    · by_cases h : b.length = f.width <;> simp only [h, ↓reduceIte]
  | none =>
    by_cases hc : code = floatCode
    · simp only [hc, ↓reduceIte, List.replicate, unpack_pair, unpack_one, val, Item.size]
      constructor
      · by_cases h : b.length = 8 <;> simp only [h, ↓reduceIte]
      · by_cases h : b.length = 4 <;> simp only [h, ↓reduceIte]
    · simp only [hc, ↓reduceIte, and_self]

theorem lookup_none {rows : List (Nat × String × String)} {code : Nat} (h : ∀ r ∈ rows, r.1 < code) :
    lookup rows code = none := by
  unfold lookup
  rw [List.find?_eq_none.2 fun r hr => by simpa using Nat.ne_of_lt (h r hr)]

/-- 28: one past the largest format code (0x1B); from there on neither the model nor a table has a row -/
theorem modelItems_none {code : Nat} (h : 28 ≤ code) (n : Nat) : modelItems code n = none := by
  have ne : ∀ c, c < 28 → code ≠ c := fun c hc e => absurd (e ▸ h) (Nat.not_le_of_lt hc)
  unfold modelItems intFmt floatCode
  rw [if_neg (ne _ (by decide)), if_neg (ne _ (by decide)), if_neg (ne _ (by decide)), if_neg (ne _ (by decide)),
    if_neg (ne _ (by decide))]
  exact if_neg (ne _ (by decide))

theorem genRows_eq_modelItems (code : Nat) :
    rowItems Gen.BleMeta.rangeRows code = modelItems code 2 ∧
    firstItems Gen.BleMeta.unpackRows code = modelItems code 1 := by
  by_cases h : code < 28
  · revert code
    decide +kernel
  · have h := Nat.le_of_not_lt h
    have hr : ∀ r ∈ Gen.BleMeta.rangeRows, r.1 < 28 := by decide
    have hu : ∀ r ∈ Gen.BleMeta.unpackRows, r.1 < 28 := by decide
    rw [modelItems_none h, modelItems_none h, rowItems, firstItems,
      lookup_none fun r hm => Nat.lt_of_lt_of_le (hr r hm) h, lookup_none fun r hm => Nat.lt_of_lt_of_le (hu r hm) h]
    exact ⟨rfl, rfl⟩

end HapVerif.BleMetaGen
