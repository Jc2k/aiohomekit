import HapVerif.Model.Pdu
import HapVerif.Spec.Pdu
import HapVerif.Proofs.Bytes

/-! HAP PDU framing (BLE request fragmenter, response readers, CoAP item decoder) against the accessory of `Spec.Pdu`. -/

namespace HapVerif.Pdu
open HapVerif HapVerif.Spec.Pdu

theorem conts_fit (tid : UInt8) (sz : Nat) : ∀ (fuel : Nat) (d : Bytes) (f : Bytes),
    f ∈ conts tid sz fuel d → f.length ≤ sz + 2
  | 0, _, _, h => nomatch h
  | _ + 1, [], _, h => nomatch h
  | n + 1, b :: d, f, h => by
    rcases List.mem_cons.mp h with rfl | h
    · exact Nat.succ_le_succ (Nat.succ_le_succ (List.length_take_le _ _))
    · exact conts_fit tid sz n _ f h

theorem conts_join (tid : UInt8) (sz : Nat) (hsz : 0 < sz) : ∀ (fuel : Nat) (d : Bytes), d.length ≤ fuel →
    joinConts tid (conts tid sz fuel d) = some d
  | _, [], _ => by cases ‹Nat› <;> rfl
  | n + 1, b :: d, h => by
    rw [conts, joinConts, if_pos ⟨rfl, rfl⟩,
      conts_join tid sz hsz n _ (by
        rw [List.length_drop]; exact Nat.sub_le_of_le_add (Nat.le_trans h (Nat.add_le_add_left hsz n)))]
    · exact congrArg some (List.take_append_drop ..)
    · exact List.cons_ne_nil _ _

theorem le16b_eq : Pdu.le16b = Spec.Pdu.le16b := rfl

theorem encodePdu_body (opcode tid : UInt8) (iid : Nat) (data : Bytes) (fs : Nat) (hne : data ≠ []) :
    encodePdu opcode tid iid data fs =
      ([0, opcode, tid] ++ Spec.Pdu.le16b iid ++ Spec.Pdu.le16b data.length ++ data.take (fs - 7)) ::
        conts tid (fs - 2) data.length (data.drop (fs - 7)) := by
  rw [encodePdu, if_neg hne, le16b_eq]

theorem decodeFirst_header (control tid status : UInt8) (n : Nat) (p0 : Bytes) (hst : status.toNat < 7) (hn : n < 65536) :
    decodeFirst tid ([control, tid, status] ++ Spec.Pdu.le16b n ++ p0) = .ok (status.toNat, n, p0) := by
  have hs : ¬ status.toNat ≥ bleStatusCount := Nat.not_le.mpr hst
  have h5 : ¬ p0.length + 1 + 1 + 1 + 1 + 1 < 5 := by omega
  simp only [Spec.Pdu.le16b, List.cons_append, List.nil_append, decodeFirst, hs, if_false, ne_eq, not_true_eq_false,
    List.length_cons, h5, List.take_succ_cons, List.take_zero, List.drop_succ_cons, List.drop_zero, Pdu.le16, natToLe_two_val n hn]

theorem decodeFirst_short (control tid status : UInt8) (hst : status.toNat < 7) :
    decodeFirst tid [control, tid, status] = .ok (status.toNat, 0, []) := by
  rw [decodeFirst, if_neg (show ¬ status.toNat ≥ bleStatusCount from Nat.not_le.mpr hst), if_neg (not_not_intro rfl),
    if_pos (show [control, tid, status].length < 5 from (by decide : 3 < 5))]

theorem decodeCont_body (tid cc : UInt8) (hcc : cc.toNat &&& 0x80 ≠ 0) (p : Bytes) : decodeCont tid (cc :: tid :: p) = .ok p := by
  simp only [decodeCont, hcc, if_false, ne_eq, not_true_eq_false]

theorem readLoop_done (tid : UInt8) {exp : Nat} {data : Bytes} (h : exp ≤ data.length) (frags : List (Option Bytes)) (n : Nat) :
    readLoop tid exp frags data n = (.ok data, n) := by
  rw [readLoop.eq_def]
  exact if_pos h

theorem readLoop_some (tid : UInt8) {exp : Nat} {data : Bytes} (h : data.length < exp) (f : Bytes) (rest : List (Option Bytes))
    (n : Nat) :
    readLoop tid exp (some f :: rest) data n =
      match decodeCont tid f with
      | .error e => (.error e, n + 1)
      | .ok body => readLoop tid exp rest (data ++ body) (n + 1) := by
  rw [readLoop, if_neg (Nat.not_le.mpr h)]
  rfl

theorem readPdu_first (tid : UInt8) {f : Bytes} {st exp : Nat} {data : Bytes} (h : decodeFirst tid f = .ok (st, exp, data))
    (rest : List (Option Bytes)) :
    readPdu tid (some f :: rest) =
      match readLoop tid exp rest data 1 with
      | (.error e, n) => (.error e, n)
      | (.ok body, n) => (.ok (st, body), n) := by
  rw [readPdu, h]
  rfl

theorem readLoop_pieces (tid cc : UInt8) (hcc : cc.toNat &&& 0x80 ≠ 0) : ∀ (ps : List Bytes) (data : Bytes) (n : Nat),
    (∀ p ∈ ps, p ≠ []) →
    readLoop tid (data ++ ps.flatten).length ((ps.map fun p => cc :: tid :: p).map some) data n =
      (.ok (data ++ ps.flatten), n + ps.length)
  | [], data, n, _ => by
    rw [List.flatten_nil, List.append_nil]
    exact readLoop_done tid (Nat.le_refl _) _ n
  | p :: ps, data, n, hne => by
    -- a non-empty piece is still to come, so the loop reads on
    have hlt : data.length < (data ++ (p :: ps).flatten).length := by
      rw [List.flatten_cons, List.length_append, List.length_append]
      exact Nat.lt_add_of_pos_right (Nat.add_pos_left (List.length_pos_iff.mpr (hne p (List.mem_cons_self ..))) _)
    rw [List.map_cons, List.map_cons, readLoop_some tid hlt, decodeCont_body tid cc hcc]
    show readLoop tid _ _ (data ++ p) (n + 1) = _
    rw [List.flatten_cons, ← List.append_assoc, readLoop_pieces tid cc hcc ps (data ++ p) (n + 1)
      (fun q hq => hne q (List.mem_cons_of_mem _ hq)), List.length_cons, Nat.add_assoc, Nat.add_comm 1]

theorem coapDecodeOne_item (tid : Nat) (c t s : UInt8) (b tail : Bytes) (hb : b.length < 65536) :
    coapDecodeOne tid ([c, t, s] ++ Spec.Pdu.le16b b.length ++ b ++ tail) =
      if s.toNat ≥ 7 then .error .value
      else if t.toNat ≠ tid then .ok (b.length, .status 256)
      else if s ≠ 0 then .ok (b.length, .status s.toNat)
      else if c.toNat &&& 0x0E ≠ 0x02 then .ok (b.length, .status 257)
      else .ok (b.length, .body b) := by
  simp only [Spec.Pdu.le16b, List.cons_append, List.nil_append, coapDecodeOne, natToLe_two_val _ hb, List.take_left]

theorem outcome_bytes_length (i : Nat) (o : Outcome) : (o.bytes i).length = 5 + o.body.length := by
  cases o <;> exact Nat.add_comm _ 5

theorem length_le_respondAll : ∀ (os : List Outcome) (k : Nat), os.length ≤ (respondAll k os).length
  | [], _ => Nat.le_refl _
  | o :: os, k => by
    have := length_le_respondAll os (k + 1)
    rw [respondAll, List.length_append, outcome_bytes_length, List.length_cons]; omega

end HapVerif.Pdu
