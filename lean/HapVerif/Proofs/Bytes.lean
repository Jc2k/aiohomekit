import HapVerif.Bytes

/-! Numbers as byte strings: the reading functions invert the writing functions (core Lean only). -/

namespace HapVerif

@[simp] theorem natToLe_length (k n : Nat) : (natToLe k n).length = k := by
  induction k generalizing n with
  | zero => rfl
  | succ k ih => simp [natToLe, ih]

theorem natToLe_ne_nil (k n : Nat) (hk : 0 < k) : natToLe k n ≠ [] :=
  fun h => by have := natToLe_length k n; rw [h] at this; exact absurd this.symm (Nat.ne_of_gt hk)

theorem ofNat_inj_lt (a b : Nat) (ha : a < 256) (hb : b < 256) (h : UInt8.ofNat a = UInt8.ofNat b) : a = b := by
  rw [← UInt8.toNat_ofNat_of_lt' ha, ← UInt8.toNat_ofNat_of_lt' hb, h]

theorem leToNat_cons (x : UInt8) (b : Bytes) : leToNat (x :: b) = x.toNat + 256 * leToNat b := rfl

theorem natToLe_val : ∀ (k n : Nat), n < 256 ^ k → leToNat (natToLe k n) = n
  | 0, n, h => by simp only [Nat.pow_zero, Nat.lt_one_iff] at h; subst h; rfl
  | k + 1, n, h => by
    rw [natToLe, leToNat_cons, natToLe_val k (n / 256) (Nat.div_lt_of_lt_mul (Nat.mul_comm _ 256 ▸ h)),
      UInt8.toNat_ofNat_of_lt' (Nat.mod_lt n (by decide))]
    exact Nat.mod_add_div n 256

theorem natToLe_leToNat : ∀ b : Bytes, natToLe b.length (leToNat b) = b
  | [] => rfl
  | x :: b => by
    rw [leToNat_cons, List.length_cons, natToLe, Nat.add_mul_mod_self_left, Nat.mod_eq_of_lt x.toNat_lt, UInt8.ofNat_toNat,
      Nat.add_mul_div_left _ _ (by decide), Nat.div_eq_of_lt x.toNat_lt, Nat.zero_add, natToLe_leToNat b]

theorem beToNat_reverse (b : Bytes) : beToNat b.reverse = leToNat b := by
  rw [beToNat, List.foldl_reverse, leToNat]
  exact congrArg (b.foldr · 0) (funext fun x => funext fun acc => (Nat.add_comm _ _).trans (congrArg _ (Nat.mul_comm _ _)))

theorem natToBe_val (k n : Nat) (h : n < 256 ^ k) : beToNat (natToBe k n) = n := by
  rw [natToBe, beToNat_reverse, natToLe_val k n h]

theorem natToBe_length (k n : Nat) : (natToBe k n).length = k := by
  rw [natToBe, List.length_reverse, natToLe_length]

theorem beToNat_concat (b : Bytes) (x : UInt8) : beToNat (b ++ [x]) = beToNat b * 256 + x.toNat := by
  rw [beToNat, List.foldl_append]
  rfl

theorem leToNat_lt (b : Bytes) : leToNat b < 256 ^ b.length := by
  induction b with
  | nil => exact Nat.one_pos
  | cons x b ih =>
    rw [leToNat_cons, List.length_cons, Nat.pow_succ, Nat.mul_comm (256 ^ _)]
    calc x.toNat + 256 * leToNat b < 256 + 256 * leToNat b := Nat.add_lt_add_right x.toNat_lt _
      _ = 256 * (leToNat b + 1) := by rw [Nat.mul_succ, Nat.add_comm]
      _ ≤ 256 * 256 ^ b.length := Nat.mul_le_mul_left _ ih

theorem leToNat_inj (a b : Bytes) (hl : a.length = b.length) (hv : leToNat a = leToNat b) : a = b := by
  rw [← natToLe_leToNat a, ← natToLe_leToNat b, hl, hv]

theorem beToNat_lt (b : Bytes) : beToNat b < 256 ^ b.length := by
  rw [← List.reverse_reverse b, beToNat_reverse, List.length_reverse]
  exact leToNat_lt _

theorem beToNat_inj (a b : Bytes) (hl : a.length = b.length) (hv : beToNat a = beToNat b) : a = b := by
  rw [← List.reverse_reverse a, ← List.reverse_reverse b, beToNat_reverse, beToNat_reverse] at hv
  exact List.reverse_inj.mp (leToNat_inj _ _ (by rw [List.length_reverse, List.length_reverse, hl]) hv)

theorem beToNat_zeros (n : Nat) (b : Bytes) : beToNat (List.replicate n 0 ++ b) = beToNat b := by
  induction n with
  | zero => rfl
  | succ n ih =>
    rw [List.replicate_succ, List.cons_append, beToNat, List.foldl_cons]
    exact ih

theorem natToLe_two (n : Nat) : natToLe 2 n = [UInt8.ofNat (n % 256), UInt8.ofNat (n / 256 % 256)] := rfl

-- `leToNat` of the two bytes unfolds to this sum
theorem natToLe_two_val (n : Nat) (h : n < 65536) :
    (UInt8.ofNat (n % 256)).toNat + 256 * (UInt8.ofNat (n / 256 % 256)).toNat = n :=
  natToLe_val 2 n h

theorem toList_loop (bs : ByteArray) (i : Nat) (r : List UInt8) :
    ByteArray.toList.loop bs i r = r.reverse ++ bs.data.toList.drop i := by
  fun_induction ByteArray.toList.loop bs i r
  next i r h ih =>
    have h' : i < bs.data.size := h
    rw [ih, List.reverse_cons, List.append_assoc, List.singleton_append, ByteArray.get!, getElem!_pos bs.data i h',
      ← Array.getElem_toList h', ← List.drop_eq_getElem_cons]
  next i r h =>
    rw [List.drop_of_length_le (Nat.le_of_not_lt h), List.append_nil]

/-- the kernel evaluates `str "…"` in quadratic time; after `rw` with this, which unifies a literal with
    `String.ofList _`, in linear time -/
theorem str_ofList (cs : List Char) : str (String.ofList cs) = cs.flatMap String.utf8EncodeChar := by
  rw [str, String.toUTF8, String.toByteArray_ofList, ByteArray.toList, toList_loop, List.utf8Encode,
    List.toList_data_toByteArray]
  rfl

end HapVerif
