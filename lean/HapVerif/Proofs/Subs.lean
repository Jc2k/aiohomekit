import HapVerif.Model.Subs

/-! Lemmas about the subscription/listener automaton `HapVerif.Subs`, for C12. -/

namespace HapVerif.Subs

@[simp] theorem mem_insertCh (c x : Ch) (l : List Ch) : x ∈ insertCh c l ↔ x ∈ l ∨ x = c := by
  unfold insertCh
  split
  · next h => exact (or_iff_left_of_imp fun hx => hx ▸ List.contains_iff_mem.mp h).symm
  · exact List.mem_append.trans (or_congr_right List.mem_singleton)

@[simp] theorem mem_union (a b : List Ch) (x : Ch) : x ∈ union a b ↔ x ∈ a ∨ x ∈ b := by
  induction b generalizing a with
  | nil => exact (or_iff_left List.not_mem_nil).symm
  | cons c cs ih =>
    rw [List.mem_cons, ← or_assoc, ← mem_insertCh]
    exact ih _

@[simp] theorem mem_diff (a b : List Ch) (x : Ch) : x ∈ diff a b ↔ x ∈ a ∧ x ∉ b := by
  simp [diff]

theorem deliver_frame (s : St) (keys : List Ch) :
    (deliver s keys).wanted = s.wanted ∧ (deliver s keys).supports = s.supports ∧
    (deliver s keys).connected = s.connected ∧ (deliver s keys).session = s.session ∧
    (deliver s keys).registered = s.registered := ⟨rfl, rfl, rfl, rfl, rfl⟩

/-- `step` with its `if`s pushed into the fields -/
def flat (s : St) : Ev → St
  | .subscribe cs => { s with
      wanted := union s.wanted cs
      registered := if s.connected && s.supports then union s.registered cs else s.registered }
  | .unsubscribe cs => { s with
      wanted := diff s.wanted cs
      registered := if s.connected then diff s.registered cs else s.registered }
  | .cutSubscribe cs => { s with
      wanted := union s.wanted cs
      supports := s.supports && !s.connected
      connected := s.connected && !s.supports
      registered := if s.connected && s.supports then [] else s.registered }
  | .drop => { s with connected := false, registered := [] }
  | .connect =>
    let t := if s.connected then s else deliver s []
    { s with
      connected := true
      session := if s.connected then s.session else s.session + 1
      registered := if s.connected then s.registered else if s.supports then union [] s.wanted else []
      listeners := t.listeners
      gone := t.gone }
  | .addListener id k => { s with
      listeners := if s.listeners.any (·.id = id) || s.gone.any (·.id = id) then s.listeners
        else s.listeners ++ [⟨id, k, []⟩] }
  | .removeListener id => step s (.removeListener id)
  | .events bodies =>
    let t := if s.connected then bodies.foldl deliverBody s else s
    { s with listeners := t.listeners, gone := t.gone }

theorem burst_frame (bodies : List Body) (s : St) :
    bodies.foldl deliverBody s =
      { s with listeners := (bodies.foldl deliverBody s).listeners, gone := (bodies.foldl deliverBody s).gone } :=
  List.foldlRecOn (motive := fun t => t = { s with listeners := t.listeners, gone := t.gone }) bodies deliverBody rfl
    fun t h b _ => by
      cases b with
      | chars k => exact congrArg (deliver · k) h
      | _ => exact h

theorem step_eq (s : St) (e : Ev) : step s e = flat s e := by
  obtain ⟨w, sup, con, n, r, ls, g⟩ := s
  cases e with
  | events bodies =>
    cases con
    · rfl
    · exact burst_frame bodies _
  | addListener id k => exact (apply_ite (St.mk w sup con n r · g) ..).symm
  | drop | removeListener => rfl
  | _ => cases sup <;> cases con <;> rfl

structure Inv (s : St) : Prop where
  covers : s.connected = true → s.supports = true → ∀ x ∈ s.wanted, x ∈ s.registered
  down : s.connected = false → s.registered = []

theorem Inv.of_down {t : St} (hc : t.connected = false) (hr : t.registered = []) : Inv t :=
  ⟨fun h => absurd (hc.symm.trans h) Bool.false_ne_true, fun _ => hr⟩

theorem Inv.of_fallback {t : St} (hc : t.connected = true) (hs : t.supports = false) : Inv t :=
  ⟨fun _ h => absurd (hs.symm.trans h) Bool.false_ne_true, fun h => absurd (h.symm.trans hc) Bool.false_ne_true⟩

theorem step_inv (s : St) (e : Ev) (h : Inv s) : Inv (step s e) := by
  rw [step_eq]
  obtain ⟨w, sup, con, n, r, ls, g⟩ := s
  cases con
  · -- down: nothing is registered, and only `connect` changes that
    cases (h.down rfl : r = [])
    cases e with
    | connect =>
      cases sup
      · exact .of_fallback rfl rfl
      · exact ⟨fun _ _ x hx => (mem_union ..).mpr (.inr hx), nofun⟩
    | _ => exact .of_down rfl rfl
  cases sup
  · -- polling fallback: only `drop` takes the connection down
    cases e with
    | drop => exact .of_down rfl rfl
    | _ => exact .of_fallback rfl rfl
  · -- up: everything wanted is registered
    have hw : ∀ x ∈ w, x ∈ r := h.covers rfl rfl
    cases e with
    | subscribe cs => exact ⟨fun _ _ x hx => (mem_union ..).mpr (((mem_union ..).mp hx).imp_left (hw x)), nofun⟩
    | unsubscribe cs => exact ⟨fun _ _ x hx => (mem_diff ..).mpr (((mem_diff ..).mp hx).imp_left (hw x)), nofun⟩
    | cutSubscribe | drop => exact .of_down rfl rfl
    | _ => exact ⟨fun _ _ => hw, nofun⟩

def told (l : Listener) (ks : List (List Ch)) : Listener := { l with log := l.log ++ ks }

@[simp] theorem told_nil (l : Listener) : told l [] = l :=
  congrArg (Listener.mk l.id l.kind) (List.append_nil l.log)
@[simp] theorem told_told (l : Listener) (a b : List (List Ch)) : told (told l a) b = told l (a ++ b) :=
  congrArg (Listener.mk l.id l.kind) (List.append_assoc l.log a b)

theorem fresh_blank (P : List Listener → Nat → Bool) (ids : List Nat) :
    ∀ x ∈ ids.foldl (fun (acc : List Listener) k => if P acc k then acc else acc ++ [⟨k, .normal, []⟩]) [],
      x.log = [] ∧ x.kind = .normal := by
  refine List.foldlRecOn (motive := fun (acc : List Listener) => ∀ x ∈ acc, x.log = [] ∧ x.kind = .normal) ids _
    nofun fun acc h k _ => ?_
  split
  · exact h
  · exact List.forall_mem_append.mpr ⟨h, List.forall_mem_singleton.mpr ⟨rfl, rfl⟩⟩

theorem deliver_told {s : St} {l : Listener} (keys : List Ch) (hl : l ∈ s.listeners) (hk : l.kind ≠ .removesSelf) :
    told l [keys] ∈ (deliver s keys).listeners :=
  -- `listeners` is `kept ++ fresh` by definition
  List.mem_append_left _ (List.mem_filter.mpr ⟨List.mem_map_of_mem (f := (told · [keys])) hl, decide_eq_true hk⟩)

theorem deliver_told_gone {s : St} {l : Listener} (keys : List Ch) (hl : l ∈ s.listeners) (hk : l.kind = .removesSelf) :
    told l [keys] ∈ (deliver s keys).gone :=
  List.mem_append_right _ (List.mem_filter.mpr ⟨List.mem_map_of_mem (f := (told · [keys])) hl, decide_eq_true hk⟩)

theorem mem_deliver_listeners {s : St} {keys : List Ch} {l' : Listener} (h : l' ∈ (deliver s keys).listeners) :
    (∃ l ∈ s.listeners, l' = told l [keys]) ∨ (l'.log = [] ∧ l'.kind = .normal) := by
  refine (List.mem_append.mp h).imp (fun h => ?_) (fresh_blank _ _ l')
  obtain ⟨l, hl, rfl⟩ := List.mem_map.mp (List.mem_filter.mp h).1
  exact ⟨l, hl, rfl⟩

theorem mem_deliver_gone {s : St} {keys : List Ch} {l' : Listener} (h : l' ∈ (deliver s keys).gone) :
    l' ∈ s.gone ∨ ∃ l ∈ s.listeners, l' = told l [keys] := by
  refine (List.mem_append.mp h).imp_right fun h => ?_
  obtain ⟨l, hl, rfl⟩ := List.mem_map.mp (List.mem_filter.mp h).1
  exact ⟨l, hl, rfl⟩

def keysOf : List Body → List (List Ch)
  | [] => []
  | .chars k :: bs => k :: keysOf bs
  | _ :: bs => keysOf bs

theorem burst_told (bodies : List Body) {s : St} {l : Listener} (hl : l ∈ s.listeners) (hk : l.kind ≠ .removesSelf) :
    told l (keysOf bodies) ∈ (bodies.foldl deliverBody s).listeners := by
  induction bodies generalizing s l with
  | nil => rwa [keysOf, told_nil]
  | cons b bs ih =>
    cases b with
    | chars k => exact told_told l [k] _ ▸ ih (deliver_told k hl hk) hk
    | _ => exact ih hl hk

/-- what a listener that stays registered must have been told by the end of a history -/
def deliveredTo : St → List Ev → List (List Ch)
  | _, [] => []
  | s, e :: es =>
    (match e with
      | .events bodies => if s.connected then keysOf bodies else []
      | .connect => if s.connected then [] else [[]]
      | _ => []) ++ deliveredTo (step s e) es

/-- what one event tells a listener that stays registered: the head of `deliveredTo s (e :: _)` -/
def heard (s : St) : Ev → List (List Ch)
  | .events bodies => if s.connected then keysOf bodies else []
  | .connect => if s.connected then [] else [[]]
  | _ => []

theorem told_mem_step (s : St) (e : Ev) (l : Listener) (hl : l ∈ s.listeners) (hk : l.kind ≠ .removesSelf)
    (hr : e ≠ .removeListener l.id) :
    told l (heard s e) ∈ (step s e).listeners := by
  have h0 : told l [] ∈ s.listeners := (told_nil l).symm ▸ hl
  rw [step_eq]
  obtain ⟨w, sup, con, n, r, ls, g⟩ := s
  cases e with
  | connect =>
    cases con
    · exact deliver_told [] hl hk
    · exact h0
  | events bodies =>
    cases con
    · exact h0
    · exact burst_told bodies hl hk
  | addListener id k =>
    rw [flat]
    split
    · exact h0
    · exact List.mem_append_left _ h0
  | removeListener id => exact List.mem_filter.mpr ⟨h0, decide_eq_true fun h : l.id = id => hr (h ▸ rfl)⟩
  | _ => exact h0

theorem ostep_wanted_mem (s : OSt) (e : OEv) (x : Ch) :
    x ∈ (ostep s e).wanted ↔ (match effectOn x e with | some b => b = true | none => x ∈ s.wanted) := by
  cases e with
  | addWanted cs => by_cases h : x ∈ cs <;> simp [ostep, effectOn, h]
  | removeWanted cs => by_cases h : x ∈ cs <;> simp [ostep, effectOn, h]
  | _ => exact Iff.rfl

theorem lastEffect_append (x : Ch) (a b : List OEv) :
    lastEffect x (a ++ b) = (lastEffect x b).or (lastEffect x a) := by
  simp only [lastEffect, List.reverse_append, List.findSome?_append]

theorem lastEffect_cons (x : Ch) (e : OEv) (es : List OEv) :
    lastEffect x (e :: es) = (lastEffect x es).or (effectOn x e) := by
  simp only [lastEffect, List.reverse_cons, List.findSome?_append, List.findSome?_singleton]

theorem lastEffect_mem (x : Ch) (l : List OEv) (v : Bool) (h : lastEffect x l = some v) :
    ∃ e ∈ l, effectOn x e = some v := by
  obtain ⟨e, he, hv⟩ := List.exists_of_findSome?_eq_some h
  exact ⟨e, List.mem_reverse.mp he, hv⟩

end HapVerif.Subs
