/-! Taking a `do` block of `Except` apart.  A guard elaborates to `if c then .error e >>= k else k ()` with the
continuation `k` bound by a `have`; `dsimp only [f, Except.error_bind, Except.ok_bind, pure, Except.pure]` turns the block `f`
into a nest of `match` and `if` (without `Except.error_bind` each guard keeps `k` twice). -/

theorem Except.error_bind {ε α β} (e : ε) (f : α → Except ε β) : (Except.error e >>= f) = Except.error e := rfl

theorem Except.ok_bind {ε α β} (a : α) (f : α → Except ε β) : (Except.ok a >>= f) = f a := rfl

namespace HapVerif

/-- inverts one guard: from `(if c then fail else k) = z` with `fail ≠ z`, `¬c` and `k = z` -/
theorem of_ite_eq {α} {c : Prop} [Decidable c] {x y z : α} {P : Prop} (hx : x ≠ z) (k : ¬c → y = z → P) :
    (if c then x else y) = z → P := by
  split
  · exact fun h => (hx h).elim
  · exact k ‹_›

theorem mapM_map_ok {ε α β γ} (f : β → Except ε γ) (g : α → β) (h : α → γ) : ∀ l : List α,
    (∀ a ∈ l, f (g a) = .ok (h a)) → (l.map g).mapM f = .ok (l.map h)
  | [], _ => rfl
  | a :: l, hl => by
    rw [List.map_cons, List.mapM_cons, hl a (List.mem_cons_self ..),
      mapM_map_ok f g h l (fun x hx => hl x (List.mem_cons_of_mem _ hx))]
    rfl

end HapVerif
