import HapVerif.Proofs.ReconnectOps

/-! # The observation log only grows -/

namespace HapVerif.Reconnect

theorem grows_drop (s : St) : s.obs <+: (dropTransport s).obs := by
  rw [dropTransport_eq]
  exact List.prefix_append _ _

theorem grows_finish (s : St) (c : Conn) : s.obs <+: (finish s c).obs := by
  rw [finish_eq]
  exact List.prefix_append _ _

theorem grows_backoff (s : St) : s.obs <+: (backoff s).obs := List.prefix_append _ _

theorem grows_verdict (s : St) (v : Ver) : s.obs <+: (verifyVerdict s v).1.obs := by
  cases v with
  | ok => exact grows_finish { s with secure := true } _
  | auth => exact (grows_drop s).trans (grows_finish _ _)
  | fail => exact (grows_drop s).trans (grows_backoff _)
  | hang =>
    simp only [verifyVerdict]
    split
    · exact List.prefix_rfl
    · exact grows_backoff s
  | okLost =>
    simp only [verifyVerdict]
    split
    · exact grows_finish { s with secure := true } _
    · split
      · exact grows_backoff { s with secure := true, current := none, open_ := _, resub := false }
      · exact grows_backoff s
  | wrongId =>
    have hw : s.obs <+: (wrongIdState s).obs := by
      rw [wrongIdState, dropTransport_eq]
      exact List.prefix_append _ _
    rw [verifyVerdict_wrongId]
    split
    · exact hw
    · exact hw.trans (grows_backoff _)

theorem grows_tcpPhase_cons (a : Host) (as : List Host) (s : St) (ih : ∀ s', s'.obs <+: (tcpPhase as s').1.obs) :
    (dialled s (a :: as)).obs <+: (tcpPhase (a :: as) s).1.obs := by
  rw [tcpPhase_cons]
  split
  · exact ih _
  · exact List.prefix_rfl
  · exact (List.prefix_append _ _).trans (grows_verdict (opened (dialled s (a :: as)) _) _)

theorem grows_tcpPhase (as : List Host) (s : St) : s.obs <+: (tcpPhase as s).1.obs := by
  induction as generalizing s with
  | nil => exact grows_backoff s
  | cons a as ih => exact (List.prefix_append _ _).trans (grows_tcpPhase_cons a as s ih)

end HapVerif.Reconnect
