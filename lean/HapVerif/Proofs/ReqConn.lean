import HapVerif.Model.ReqConn

/-! `letThrough` in closed form, `Step` describing `step`, the invariants of the three automata. -/

namespace HapVerif.ReqConn

theorem letThrough_eq (fuel : Nat) (s : St) :
    letThrough fuel s =
      { s with waiting := s.waiting.drop (min fuel (s.limit - s.inflight.length)),
               inflight := s.inflight ++
                 (s.waiting.take (min fuel (s.limit - s.inflight.length))).map (⟨·, s.now + requestTimeout⟩),
               obs := s.obs ++ (s.waiting.take (min fuel (s.limit - s.inflight.length))).map (.sent · s.epoch) } := by
  fun_induction letThrough fuel s
  next s => simp
  next fuel s hw =>
    simp only [hw, List.take_nil, List.drop_nil, List.map_nil, List.append_nil]
    rw [← hw]
  next fuel s k ks hw hlt ih =>
    have : s.limit - s.inflight.length = s.limit - (s.inflight.length + 1) + 1 := by
      rw [Nat.sub_add_eq, Nat.sub_add_cancel (Nat.sub_pos_of_lt hlt)]
    rw [ih, this, Nat.succ_min_succ]
    simp [hw]
  next fuel s k ks hw hlt => simp [Nat.sub_eq_zero_of_le (Nat.le_of_not_lt hlt)]

theorem deliverResp_nil (s : St) (x : Nat) (h : s.inflight = []) : deliverResp s x = abandon s none := by
  simp [deliverResp, h]

theorem deliverResp_cons (s : St) (x : Nat) {p : Pending} {ps : List Pending} (h : s.inflight = p :: ps) :
    deliverResp s x = letThrough (s.waiting.length + 1)
      { s with inflight := ps, obs := s.obs ++ [.done p.id (.ok x) s.now] } := by
  simp [deliverResp, h]

theorem step_resp {s : St} (x : Nat) (hup : s.up = true) (hpart : s.part = none) :
    step s (.resp x) = deliverResp s x := by
  simp [step, hup, hpart]

theorem step_rest_resp {s : St} {x : Nat} (hup : s.up = true) (hpart : s.part = some (.resp x)) :
    step s .rest = deliverResp { s with part := none } x := by
  simp [step, hup, hpart]

theorem step_rest_event {s : St} {e : Nat} (hup : s.up = true) (hpart : s.part = some (.event e)) :
    step s .rest = emit { s with part := none } [.event e] := by
  simp [step, hup, hpart]

theorem step_event (s : St) (e : Nat) :
    step s (.event e) = if !s.up || s.part.isSome then s else emit s [.event e] :=
  rfl

/-- sound only (`ignored`, `answered`, `notified`, `abandoned` take any `e`): what an event does NOT do comes from
    `step_resp`, `step_event`, … or `step` itself.  In `abandoned`, `t` is the instant of the loss, `n` the time after
    the step. -/
inductive Step (s : St) : Ev → St → Prop
  | ignored (e : Ev) : Step s e s
  | refused (id : ReqId) : s.up = false → Step s (.req id) (emit s [.done id .disconnected s.now])
  | queued (id : ReqId) : s.up = true → Step s (.req id) (letThrough 1 { s with waiting := s.waiting ++ [id] })
  | answered (e : Ev) (x : Nat) (p : Pending) (ps : List Pending) : s.up = true → s.inflight = p :: ps →
      (e = .resp x ∧ s.part = none ∨ e = .rest ∧ s.part = some (.resp x)) →
      Step s e (letThrough (s.waiting.length + 1)
        { s with part := none, inflight := ps, obs := s.obs ++ [.done p.id (.ok x) s.now] })
  | notified (e : Ev) (x : Nat) : s.up = true → Step s e (emit { s with part := none } [.event x])
  | began (p : Part) : s.up = true → s.part = none → Step s (.half p) { s with part := some p }
  | withdrawn (id : ReqId) : id ∈ s.waiting →
      Step s (.cancel id) { s with waiting := s.waiting.filter (· ≠ id), obs := s.obs ++ [.done id .cancelled s.now] }
  | abandoned (e : Ev) (c : Option ReqId) (t n : Time) : t ≤ n → Step s e { abandon { s with now := t } c with now := n }
  | advanced (dt : Nat) : (∀ p ∈ s.inflight, s.now + dt < p.deadline) → Step s (.adv dt) { s with now := s.now + dt }
  | reconnected : s.up = false → Step s .reconnect { s with up := true, epoch := s.epoch + 1 }

theorem earliest_eq_min? (l : List Pending) : earliest l = (l.map (·.deadline)).min? := by
  induction l with
  | nil => rfl
  | cons q qs ih =>
    rw [earliest, ih, List.map_cons, List.min?_cons]
    cases (qs.map (·.deadline)).min? <;> rfl

theorem earliest_eq_none {l : List Pending} : earliest l = none ↔ l = [] := by
  rw [earliest_eq_min?, List.min?_eq_none_iff, List.map_eq_nil_iff]

theorem earliest_min {l : List Pending} {d : Time} (h : earliest l = some d) :
    (∃ p ∈ l, p.deadline = d) ∧ ∀ p ∈ l, d ≤ p.deadline := by
  rw [earliest_eq_min?, List.min?_eq_some_iff] at h
  exact ⟨List.mem_map.mp h.1, fun p hp => h.2 _ (List.mem_map_of_mem hp)⟩

theorem earliest_ge (l : List Pending) (d t : Time) (h : earliest l = some d) (hl : ∀ p ∈ l, t ≤ p.deadline) :
    t ≤ d := by
  obtain ⟨⟨p, hp, rfl⟩, -⟩ := earliest_min h
  exact hl p hp

theorem step_adv_inflight (s : St) (dt : Nat) : ∀ p ∈ (step s (.adv dt)).inflight, s.now + dt < p.deadline := by
  intro p hp
  simp only [step] at hp
  split at hp
  · rename_i d hd
    split at hp
    · cases hp
    · rename_i hle
      exact Nat.lt_of_lt_of_le (Nat.lt_of_not_le hle) ((earliest_min hd).2 p hp)
  · rename_i hd
    rw [earliest_eq_none.mp hd] at hp
    cases hp

theorem Step.delivered {s : St} {e : Ev} {x : Nat} (hup : s.up = true)
    (he : e = .resp x ∧ s.part = none ∨ e = .rest ∧ s.part = some (.resp x)) :
    Step s e (deliverResp { s with part := none } x) := by
  obtain ⟨l, hq⟩ : ∃ l, s.inflight = l := ⟨_, rfl⟩
  cases l with
  | nil =>
    rw [deliverResp_nil { s with part := none } x hq]
    exact .abandoned e none s.now s.now (Nat.le_refl _)
  | cons p ps =>
    rw [deliverResp_cons { s with part := none } x hq]
    exact .answered e x p ps hup hq he

theorem up_and_part_none {s : St} (h : ¬(!s.up || s.part.isSome) = true) : s.up = true ∧ s.part = none := by
  cases hu : s.up <;> cases hp : s.part <;> simp_all

theorem step_spec (s : St) (e : Ev) : Step s e (step s e) := by
  fun_cases step s e
  -- req
  next id h => exact .refused id (by simpa using h)
  next id h => exact .queued id (by simpa using h)
  -- resp
  next => exact .ignored _
  next x h =>
    obtain ⟨hup, hp⟩ := up_and_part_none h
    have := Step.delivered hup (.inl ⟨rfl, hp⟩) (e := .resp x)
    rwa [← hp] at this
  -- event
  next => exact .ignored _
  next x h =>
    obtain ⟨hup, hp⟩ := up_and_part_none h
    have := Step.notified (.event x) x hup
    rwa [← hp] at this
  -- half
  next => exact .ignored _
  next p h => exact .began p (up_and_part_none h).1 (up_and_part_none h).2
  -- rest
  next => exact .ignored _
  next => exact .ignored _
  next hup x hp => exact .delivered (by simpa using hup) (.inr ⟨rfl, hp⟩)
  next hup x hp => exact .notified _ x (by simpa using hup)
  -- cancel
  next id _ => exact .abandoned _ (some id) s.now s.now (Nat.le_refl _)
  next id _ h => exact .withdrawn id (by simpa using h)
  next => exact .ignored _
  -- adv
  next dt _ d hd hle _ => exact .abandoned _ none d _ hle
  next dt _ d hd hle =>
    exact .advanced dt fun p hp => Nat.lt_of_lt_of_le (Nat.lt_of_not_le hle) ((earliest_min hd).2 p hp)
  next dt _ hd => exact .advanced dt (by simp [earliest_eq_none.mp hd])
  -- peerClose
  next => exact .abandoned _ none s.now s.now (Nat.le_refl _)
  next => exact .ignored _
  -- reconnect
  next => exact .ignored _
  next h => exact .reconnected (by simpa using h)

theorem Step.down {s s' : St} {e : Ev} (hs : Step s e s') (hup : s.up = true) (hdown : s'.up = false) :
    ∃ c t n, t ≤ n ∧ s' = { abandon { s with now := t } c with now := n } := by
  cases hs with
  | abandoned _ c t n htn => exact ⟨c, t, n, htn, rfl⟩
  | refused _ h | reconnected h => exact absurd (hup.symm.trans h) nofun
  | queued | answered =>
    rw [letThrough_eq] at hdown
    exact absurd (hup.symm.trans hdown) nofun
  | _ => exact absurd (hup.symm.trans hdown) nofun

def isSent : Obs → Prop
  | .sent _ _ => True
  | _ => False

theorem mem_map_sent {l : List ReqId} {n : Nat} : ∀ o ∈ l.map (Obs.sent · n), isSent o := by
  intro o ho
  obtain ⟨k, -, rfl⟩ := List.mem_map.mp ho
  trivial

theorem abandon_fails (s : St) (c : Option ReqId) (id : ReqId) (hid : id ∈ s.inflight.map (·.id) ∨ id ∈ s.waiting) :
    Obs.done id (if c = some id then .cancelled else .disconnected) s.now ∈ (abandon s c).obs := by
  simp only [abandon, List.mem_append, List.mem_map]
  rcases hid with hid | hid
  · obtain ⟨p, hp, rfl⟩ := List.mem_map.mp hid
    exact Or.inl (Or.inr ⟨p, hp, rfl⟩)
  · exact Or.inr ⟨id, hid, rfl⟩

structure Inv (s : St) : Prop where
  down : s.up = false → s.inflight = [] ∧ s.waiting = [] ∧ s.part = none
  cap : s.inflight.length ≤ s.limit
  full : s.waiting ≠ [] → s.limit ≤ s.inflight.length
  dl : ∀ p ∈ s.inflight, s.now ≤ p.deadline ∧ p.deadline ≤ s.now + requestTimeout

theorem letThrough_inv (fuel : Nat) (s : St) (hup : s.up = true) (hcap : s.inflight.length ≤ s.limit)
    (hdl : ∀ p ∈ s.inflight, s.now ≤ p.deadline ∧ p.deadline ≤ s.now + requestTimeout)
    (hfuel : s.waiting.length ≤ fuel ∨ s.limit ≤ s.inflight.length) : Inv (letThrough fuel s) := by
  rw [letThrough_eq]
  refine ⟨fun hd => by simp [hup] at hd, ?_, fun hw => ?_, fun p hp => ?_⟩
  · simp only [List.length_append, List.length_map, List.length_take]
    omega
  · have := mt List.drop_eq_nil_iff.mpr hw
    simp only [List.length_append, List.length_map, List.length_take]
    omega
  · rcases List.mem_append.mp hp with hp | hp
    · exact hdl p hp
    · obtain ⟨k, -, rfl⟩ := List.mem_map.mp hp
      exact ⟨Nat.le_add_right _ _, Nat.le_refl _⟩

theorem Step.inv {s s' : St} {e : Ev} (hs : Step s e s') (h : Inv s) : Inv s' := by
  cases hs with
  | ignored => exact h
  | refused => exact { h with }
  | queued id hup =>
    refine letThrough_inv 1 _ hup h.cap h.dl ?_
    -- fuel 1 suffices: if callers wait, the limit is reached (`Inv.full`)
    by_cases hw : s.waiting = []
    · exact .inl (by simp [hw])
    · exact .inr (h.full hw)
  | answered _ x p ps hup hq =>
    have hcap := h.cap
    rw [hq] at hcap
    exact letThrough_inv _ _ hup (Nat.le_of_succ_le hcap) (fun q hq' => h.dl q (hq ▸ List.mem_cons_of_mem _ hq'))
      (.inl (Nat.le_succ _))
  | notified _ _ hup | began _ hup => exact { h with down := fun hd => absurd (hup.symm.trans hd) nofun }
  | withdrawn id =>
    refine { h with down := fun hd => ?_, full := fun hne => h.full fun hw => hne (by simp [hw]) }
    simp [h.down hd]
  | abandoned => exact ⟨fun _ => ⟨rfl, rfl, rfl⟩, Nat.zero_le _, fun hw => absurd rfl hw, nofun⟩
  | advanced dt hlt =>
    exact { h with dl := fun p hp => ⟨Nat.le_of_lt (hlt p hp),
      Nat.le_trans (h.dl p hp).2 (Nat.add_le_add_right (Nat.le_add_right ..) _)⟩ }
  | reconnected => exact { h with down := nofun }

/-- ids of the requests that are outstanding (in flight, then waiting) -/
def outIds (s : St) : List ReqId := s.inflight.map (·.id) ++ s.waiting

def doneId : Obs → Option ReqId
  | .done id _ _ => some id
  | _ => none

/-- ids of the requests that have completed, in completion order -/
def doneIds (s : St) : List ReqId := s.obs.filterMap doneId

def cnt (s : St) (j : ReqId) : Nat := (outIds s).count j + (doneIds s).count j

theorem filterMap_doneId_done {α} (l : List α) (f : α → ReqId) (g : α → Outcome) (t : Time) :
    (l.map fun a => Obs.done (f a) (g a) t).filterMap doneId = l.map f := by
  induction l <;> simp_all [doneId]

theorem filterMap_doneId_sent (l : List ReqId) (n : Nat) : (l.map (Obs.sent · n)).filterMap doneId = [] :=
  List.filterMap_eq_nil_iff.mpr fun o ho => by
    obtain ⟨k, -, rfl⟩ := List.mem_map.mp ho
    rfl

theorem letThrough_cnt (fuel : Nat) (s : St) (j : ReqId) : cnt (letThrough fuel s) j = cnt s j := by
  have := congrArg (List.count j) (List.take_append_drop (min fuel (s.limit - s.inflight.length)) s.waiting)
  simp only [List.count_append] at this
  simp only [letThrough_eq, cnt, outIds, doneIds, List.map_append, List.map_map, Function.comp_def, List.map_id',
    List.filterMap_append, filterMap_doneId_sent, List.count_append, List.count_nil]
  omega

theorem doneIds_abandon (s : St) (c : Option ReqId) : doneIds (abandon s c) = doneIds s ++ outIds s := by
  have : List.filterMap doneId [Obs.lost s.epoch s.now] = [] := rfl
  simp only [doneIds, outIds, abandon, List.filterMap_append, this, List.nil_append, List.append_assoc]
  rw [filterMap_doneId_done s.inflight (·.id), filterMap_doneId_done s.waiting (fun a => a), List.map_id']

theorem abandon_cnt (s : St) (c : Option ReqId) (n : Time) (j : ReqId) :
    cnt ({ abandon s c with now := n } : St) j = cnt s j := by
  show 0 + (doneIds (abandon s c)).count j = cnt s j
  rw [doneIds_abandon, List.count_append, cnt]
  omega

/-- the number of times `id` is issued in a history -/
def issued (evs : List Ev) (id : ReqId) : Nat := evs.count (.req id)

theorem count_req (id j : ReqId) : [id].count j = [Ev.req id].count (.req j) := by
  by_cases h : id = j <;> simp [h]

theorem Step.cnt_le {s s' : St} {e : Ev} (hs : Step s e s') (j : ReqId) : cnt s' j ≤ cnt s j + [e].count (.req j) := by
  have hd : ∀ i o t, List.filterMap doneId [Obs.done i o t] = [i] := fun _ _ _ => rfl
  cases hs with
  | refused id =>
    simp only [cnt, doneIds, emit, List.filterMap_append, List.count_append, hd, count_req]
    exact Nat.le_of_eq (Nat.add_assoc ..).symm
  | queued id =>
    rw [letThrough_cnt, ← count_req]
    simp only [cnt, outIds, List.count_append, ← Nat.add_assoc]
    exact Nat.le_of_eq (Nat.add_right_comm ..)
  | answered _ x p ps _ hq =>
    rw [letThrough_cnt]
    simp only [cnt, outIds, doneIds, hq, List.map_cons, List.filterMap_append, List.count_append, List.count_cons, hd,
      List.count_nil]
    omega
  | notified _ x =>
    have : List.filterMap doneId [Obs.event x] = [] := rfl
    simp only [cnt, doneIds, emit, List.filterMap_append, this, List.append_nil]
    exact Nat.le_add_right _ _
  | withdrawn id hid =>
    -- every copy of `id` (at least one) leaves `waiting`, one completion enters
    have h1 := (List.filter_sublist (l := s.waiting) (p := (· ≠ id))).count_le j
    have h2 : 0 < [id].count j → (s.waiting.filter (· ≠ id)).count j = 0 ∧ 0 < s.waiting.count j := fun h => by
      obtain rfl := List.mem_singleton.mp (List.count_pos_iff.mp h)
      exact ⟨List.count_eq_zero.mpr (by simp), List.count_pos_iff.mpr hid⟩
    have h3 : [id].count j ≤ 1 := List.count_le_length
    simp only [cnt, outIds, doneIds, List.count_append, List.filterMap_append, hd]
    omega
  | abandoned _ c t n =>
    rw [abandon_cnt]
    exact Nat.le_add_right (cnt s j) _
  | _ => exact Nat.le_add_right (cnt s j) _

theorem run_cnt (s : St) (evs : List Ev) (j : ReqId) : cnt (run s evs) j ≤ cnt s j + issued evs j := by
  -- the bound grows with the history: no `foldlRecOn`
  induction evs generalizing s with
  | nil => exact Nat.le_refl _
  | cons e es ih =>
    have : issued (e :: es) j = [e].count (.req j) + issued es j := List.count_append (l₁ := [e])
    rw [this, ← Nat.add_assoc]
    exact Nat.le_trans (ih (step s e)) (Nat.add_le_add_right ((step_spec s e).cnt_le j) _)

/-- the accessory answers in order: a response it starts to send is the one for the oldest request it has
    received on this connection and not yet answered -/
def answersInOrder (s : St) : Ev → Bool
  | .resp x => match s.inflight with
    | [] => true            -- nothing outstanding: an unsolicited response (the connection is abandoned)
    | p :: _ => x == p.id
  | .half (.resp x) => match s.inflight with
    | [] => false
    | p :: _ => x == p.id
  | _ => true

def InOrder : St → List Ev → Bool
  | _, [] => true
  | s, e :: es => answersInOrder s e && InOrder (step s e) es

/-- a half-received response is the head's; each `ok x` went to request `x` -/
structure AInv (s : St) : Prop where
  part : ∀ x, s.part = some (.resp x) → ∃ p ps, s.inflight = p :: ps ∧ x = p.id
  oks : ∀ id x t, Obs.done id (.ok x) t ∈ s.obs → x = id

theorem fail_ne_ok (c : Prop) [Decidable c] (x : Nat) :
    (if c then Outcome.cancelled else Outcome.disconnected) ≠ .ok x := by split <;> nofun

theorem letThrough_ainv (fuel : Nat) (s : St) (h : AInv s) : AInv (letThrough fuel s) := by
  rw [letThrough_eq]
  refine ⟨fun x hx => ?_, fun id x t hm => ?_⟩
  · obtain ⟨p, ps, hq, hid⟩ := h.part x hx
    exact ⟨p, _, congrArg (· ++ _) hq, hid⟩
  · rcases List.mem_append.mp hm with hm | hm
    · exact h.oks id x t hm
    · cases mem_map_sent _ hm

theorem Step.ainv {s s' : St} {e : Ev} (hs : Step s e s') (h : AInv s) (ho : answersInOrder s e = true) : AInv s' := by
  cases hs with
  | ignored => exact h
  | refused | withdrawn => exact { h with oks := fun id x t hm => h.oks id x t (by simpa [emit] using hm) }
  | queued => exact letThrough_ainv _ _ { h with }
  | answered _ x p ps _ hq he =>
    refine letThrough_ainv _ _ ⟨nofun, fun id y t hm => ?_⟩
    rcases List.mem_append.mp hm with hm | hm
    · exact h.oks id y t hm
    · cases List.mem_singleton.mp hm
      -- said so now, or with the first part
      rcases he with ⟨rfl, -⟩ | ⟨-, hp⟩
      · simpa [answersInOrder, hq] using ho
      · obtain ⟨p', ps', hq', hid⟩ := h.part x hp
        rw [hq] at hq'
        cases hq'
        exact hid
  | notified | abandoned =>
    exact ⟨nofun, fun id x t hm => h.oks id x t (by simpa [emit, abandon, fail_ne_ok] using hm)⟩
  | began p =>
    refine { h with part := fun x hx => ?_ }
    cases hx
    simp only [answersInOrder] at ho
    split at ho
    · cases ho
    · exact ⟨_, _, ‹_›, by simpa using ho⟩
  | advanced | reconnected => exact { h with }

theorem run_ainv (evs : List Ev) (s : St) (h : AInv s) (ho : InOrder s evs = true) : AInv (run s evs) := by
  -- `InOrder` travels with the state: no `foldlRecOn`
  induction evs generalizing s with
  | nil => exact h
  | cons e es ih =>
    rw [InOrder, Bool.and_eq_true] at ho
    exact ih _ ((step_spec s e).ainv h ho.1) ho.2

end HapVerif.ReqConn

namespace HapVerif.ReqConn.Micro

def Entry.key (e : Entry) : Nat × Nat := (e.id, e.idx)

/-- while the transport is up, `fifo` is what was written and not yet answered -/
structure MInv (s : St) : Prop where
  tail : s.up = true → ∃ pre, s.wrote = pre ++ s.fifo.map Entry.key ∧ pre.length = s.nResp
  pendWrote : ∀ p ∈ s.pendingDone, p ∈ s.wrote
  logWrote : ∀ id k, (id, Outcome.ok k) ∈ s.log → (id, k) ∈ s.wrote
  wroteIdx : s.wrote.map (·.2) = List.range s.nWritten

theorem settle_inv (s : St) (h : MInv s) : MInv (settle s) := by
  have hlog : ∀ id k, (id, Outcome.ok k) ∈ s.log ++ s.pendingDone.map (fun p => (p.1, Outcome.ok p.2)) →
      (id, k) ∈ s.wrote := by
    intro id k hm
    rcases List.mem_append.mp hm with hm | hm
    · exact h.logWrote id k hm
    · obtain ⟨p, hp, hpe⟩ := List.mem_map.mp hm
      cases hpe
      exact h.pendWrote p hp
  fun_cases settle s
  next =>
    refine { h with tail := nofun, pendWrote := nofun, logWrote := fun id k hm => hlog id k (List.mem_append.mpr ?_) }
    -- only `done` holds responses
    simp only [List.mem_append, List.mem_map, Prod.mk.injEq, reduceCtorEq, and_false, exists_false, or_false] at hm
    exact hm
  next =>
    exact { h with pendWrote := nofun, logWrote := hlog }

theorem MInv.idx_eq {s : St} (h : MInv s) {i : Nat} {p : Nat × Nat} (hi : s.wrote[i]? = some p) : p.2 = i := by
  have hp : (List.range s.nWritten)[i]? = some p.2 := by
    rw [← h.wroteIdx, List.getElem?_map, hi]
    rfl
  obtain ⟨_, hp⟩ := List.getElem?_eq_some_iff.mp hp
  rw [← hp, List.getElem_range]

theorem pop_inv {s : St} (h : MInv s) (hup : s.up = true) {e : Entry} {rest : List Entry} (hf : s.fifo = e :: rest) :
    MInv { s with fifo := rest, nResp := s.nResp + 1 } ∧ (e.id, s.nResp) ∈ s.wrote := by
  obtain ⟨pre, hw, hl⟩ := h.tail hup
  rw [hf, List.map_cons] at hw
  refine ⟨{ h with tail := fun _ => ⟨pre ++ [e.key], by rw [hw, List.append_assoc]; rfl, by simp [hl]⟩ }, ?_⟩
  have hi : s.wrote[pre.length]? = some e.key := by
    rw [hw, List.getElem?_append_right (Nat.le_refl _), Nat.sub_self]
    rfl
  rw [← hl, ← h.idx_eq hi]
  exact List.mem_of_getElem? hi

theorem step_inv (s : St) (e : Ev) (h : MInv s) : MInv (step s e) := by
  fun_cases step s e
  -- write
  next id s' hup =>
    have hs : MInv s' := settle_inv s h
    refine ⟨fun _ => ?_, fun p hp => List.mem_append_left _ (hs.pendWrote p hp),
      fun i k hm => List.mem_append_left _ (hs.logWrote i k hm), ?_⟩
    · obtain ⟨pre, hw, hl⟩ := hs.tail hup
      exact ⟨pre, by rw [hw, List.map_append, List.append_assoc]; rfl, hl⟩
    · rw [List.map_append, hs.wroteIdx, List.range_succ]
      rfl
  next id s' _ =>
    have hs : MInv s' := settle_inv s h
    refine { hs with logWrote := fun i k hm => hs.logWrote i k ?_ }
    simpa only [List.mem_append, List.mem_singleton, Prod.mk.injEq, reduceCtorEq, and_false, or_false] using hm
  -- deliver
  next => exact h
  next => exact { h with tail := nofun }
  next hup e rest hf _ => exact { (pop_inv h (by simpa using hup) hf).1 with }
  next hup e rest hf _ =>
    obtain ⟨hp, he⟩ := pop_inv h (by simpa using hup) hf
    refine { hp with pendWrote := fun p hp' => ?_ }
    rcases List.mem_append.mp hp' with hp' | hp'
    · exact h.pendWrote p hp'
    · cases List.mem_singleton.mp hp'
      exact he
  -- giveUp
  next id _ => exact { h with pendWrote := fun p hp => h.pendWrote p (List.mem_filter.mp hp).1 }
  next id _ =>
    refine { h with tail := fun hu => ?_ }
    obtain ⟨pre, hw, hl⟩ := h.tail hu
    refine ⟨pre, hw.trans (congrArg _ ?_), hl⟩
    rw [List.map_map]
    refine List.map_congr_left fun e _ => ?_
    dsimp only [Function.comp]
    split <;> rfl
  -- tick
  next => exact settle_inv s h

theorem run_inv (evs : List Ev) : MInv (run {} evs) :=
  List.foldlRecOn evs step ⟨fun _ => ⟨[], rfl, rfl⟩, nofun, nofun, rfl⟩ fun s hs e _ => step_inv s e hs

end HapVerif.ReqConn.Micro

namespace HapVerif.ReqConn.Queue

/-- `sent`: (id, written on, issued on); `queue`: (id, issued on) -/
structure QInv (s : St) : Prop where
  sent : ∀ p ∈ s.sent, p.2.1 = p.2.2
  queue : ∀ x ∈ s.queue, x.2 ≤ s.conn

theorem grant_inv (q : List (Nat × Nat)) (s : St) (hs : ∀ p ∈ s.sent, p.2.1 = p.2.2) (hq : ∀ x ∈ q, x.2 ≤ s.conn) :
    QInv (grant true q s) := by
  fun_induction grant true q s
  next => exact ⟨hs, nofun⟩
  next ih => exact ih hs fun x hx => hq x (List.mem_cons_of_mem _ hx)
  next ih => exact ih hs fun x hx => hq x (List.mem_cons_of_mem _ hx)
  next id issuedOn rest s _ hc =>
    refine ⟨fun p hp => ?_, fun x hx => hq x (List.mem_cons_of_mem _ hx)⟩
    rcases List.mem_append.mp hp with hp | hp
    · exact hs p hp
    · cases List.mem_singleton.mp hp
      exact (by simpa using hc : issuedOn = s.conn).symm

theorem settle_inv (s : St) (h : QInv s) : QInv (settle true s) := by
  unfold settle
  cases s.failing with
  | some id => exact grant_inv _ _ h.sent h.queue
  | none =>
    dsimp only
    split
    · exact h
    · exact grant_inv _ _ h.sent h.queue

theorem step_inv (s : St) (e : Ev) (h : QInv s) : QInv (step true s e) := by
  fun_cases step true s e
  -- issue
  next id s' _ =>
    exact { (settle_inv s h : QInv s') with }
  next id s' _ =>
    have h1 : QInv s' := settle_inv s h
    refine settle_inv _ ⟨h1.sent, fun x hx => ?_⟩
    rcases List.mem_append.mp hx with hx | hx
    · exact h1.queue x hx
    · cases List.mem_singleton.mp hx
      exact Nat.le_refl _
  -- answer
  next s' _ _ _ _ =>
    exact settle_inv _ { (settle_inv s h : QInv s') with }
  next => exact settle_inv s h
  next => exact settle_inv s h
  -- lose
  next => exact { h with }
  next => exact h
  -- reconnect
  next => exact h
  next => exact { h with queue := fun x hx => Nat.le_succ_of_le (h.queue x hx) }
  -- tick
  next => exact settle_inv s h

theorem run_inv (evs : List Ev) : QInv (run true {} evs) :=
  List.foldlRecOn evs (step true) ⟨nofun, nofun⟩ fun s hs e _ => step_inv s e hs

theorem grant_all_fail (q : List (Nat × Nat)) (s : St) (hup : s.up = true) (h : ∀ x ∈ q, x.2 ≠ s.conn) :
    grant true q s = { s with queue := [], log := s.log ++ q.map (fun x => (x.1, Outcome.disconnected)) } := by
  fun_induction grant true q s
  next => simp
  next hd _ => simp [hup] at hd
  next ih =>
    refine (ih hup fun x hx => h x (List.mem_cons_of_mem _ hx)).trans ?_
    simp
  next id issuedOn rest s _ hc => exact absurd (by simpa using hc) (h _ (List.mem_cons_self ..))

theorem outstanding_fail (s : St) (hup : s.up = true) (hle : ∀ x ∈ s.queue, x.2 ≤ s.conn) :
    let s' := settle true (step true (step true s .lose) .reconnect)
    s'.holder = none ∧ s'.queue = [] ∧ s'.sent = s.sent ∧
    (∀ q ∈ s.queue, (q.1, Outcome.disconnected) ∈ s'.log) ∧
    (∀ h, s.holder = some h → (h.1, Outcome.disconnected) ∈ s'.log) := by
  intro s'
  have hne : ∀ x ∈ s.queue, x.2 ≠ s.conn + 1 := fun x hx => Nat.ne_of_lt (Nat.lt_succ_of_le (hle x hx))
  have e : s' = grant true s.queue
      { s with up := true, conn := s.conn + 1, holder := none, failing := none
               log := s.log ++ (s.holder.map fun h => (h.1, Outcome.disconnected)).toList } := by
    cases hh : s.holder <;> simp [s', step, hup, hh, settle]
  rw [e, grant_all_fail _ _ rfl hne]
  refine ⟨rfl, rfl, rfl, fun q hq => ?_, fun h hh => ?_⟩
  · exact List.mem_append_right _ (List.mem_map.mpr ⟨q, hq, rfl⟩)
  · exact List.mem_append_left _ (List.mem_append_right _ (by simp [hh]))

end HapVerif.ReqConn.Queue
