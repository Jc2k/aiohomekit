import HapVerif.Model.Crypto.Real

/-! `Sha512.compress` in a form the kernel evaluates cheaply (for the test vector `C02_k_is_H_N_g`).  To the kernel an
`Array` is its list: every `push` rebuilds the schedule and every `w[i]!` takes its length and walks to `i`.  `compressL`
keeps the schedule as a list, newest word first (the next word needs four of the first sixteen), and folds the rounds
over the (constant, word) pairs.  The two agree on sixteen-word blocks only; `hash` passes no others, but that needs
lemmas on `pad` and `chunks` nothing else uses, so `compressL` tests the length and falls back to `compress`. -/

namespace HapVerif.RealCrypto.Sha512

def nextWord (w16 w15 w7 w2 : Nat) : Nat :=
  (w16 + (rotr w15 1 ^^^ rotr w15 8 ^^^ (w15 >>> 7)) + w7 + (rotr w2 19 ^^^ rotr w2 61 ^^^ (w2 >>> 6))) % M

/-- `n` more schedule words, newest first; the four inputs are fetched in ONE walk (to the kernel four `ws[i]!` cost as
    much as all the rest) -/
def extend : Nat → List Nat → List Nat
  | 0, ws => ws
  | n+1, ws =>
    let r1 := ws.drop 1
    let r6 := r1.drop 5
    let r14 := r6.drop 8
    extend n (nextWord ((r14.drop 1).headD 0) (r14.headD 0) (r6.headD 0) (r1.headD 0) :: ws)

abbrev Vars := Nat × Nat × Nat × Nat × Nat × Nat × Nat × Nat

def round : Vars → Nat × Nat → Vars
  | (a, b, c, d, e, f, g, hh), (k, w) =>
    let t1 := (hh + (rotr e 14 ^^^ rotr e 18 ^^^ rotr e 41) + ((e &&& f) ^^^ ((M - 1 - e) &&& g)) + k + w) % M
    let t2 := ((rotr a 28 ^^^ rotr a 34 ^^^ rotr a 39) + ((a &&& b) ^^^ (a &&& c) ^^^ (b &&& c))) % M
    ((t1 + t2) % M, a, b, c, (d + t1) % M, e, f, g)

def start (h : List Nat) : Vars := (h[0]!, h[1]!, h[2]!, h[3]!, h[4]!, h[5]!, h[6]!, h[7]!)

def finish (h : List Nat) (s : Vars) : List Nat :=
  [(h[0]! + s.1) % M, (h[1]! + s.2.1) % M, (h[2]! + s.2.2.1) % M, (h[3]! + s.2.2.2.1) % M, (h[4]! + s.2.2.2.2.1) % M,
    (h[5]! + s.2.2.2.2.2.1) % M, (h[6]! + s.2.2.2.2.2.2.1) % M, (h[7]! + s.2.2.2.2.2.2.2) % M]

def compressL (h blk : List Nat) : List Nat :=
  let w := (chunks 8 blk).map word
  if w.length = 16 then finish h ((K.toList.zip (extend 64 w.reverse).reverse).foldl round (start h)) else compress h blk

theorem headD_drop (l : List Nat) (i : Nat) : (l.drop i).headD 0 = l[i]! := by
  rw [List.headD_eq_head?_getD, List.head?_drop, getElem!_def]
  cases l[i]? <;> rfl

theorem extend_succ (n : Nat) (ws : List Nat) :
    extend (n + 1) ws = extend n (nextWord ws[15]! ws[14]! ws[6]! ws[1]! :: ws) := by
  simp only [extend, List.drop_drop, headD_drop]

theorem extend_length (n : Nat) : ∀ ws, (extend n ws).length = n + ws.length := by
  induction n with
  | zero => exact fun ws => (Nat.zero_add _).symm
  | succ n ih =>
    intro ws
    rw [extend_succ, ih, List.length_cons, Nat.add_succ, Nat.succ_add]

theorem getElem!_reverse (w : Array Nat) (k : Nat) (h : k < w.size) : w.toList.reverse[k]! = w[w.size - 1 - k]! := by
  simp [h, show w.size - 1 - k < w.size from Nat.sub_lt_of_lt (Nat.sub_one_lt (Nat.ne_zero_of_lt h))]

theorem foldl_push_nextWord (n : Nat) : ∀ w : Array Nat, 16 ≤ w.size →
    (List.range' w.size n).foldl (fun w i => w.push (nextWord w[i - 16]! w[i - 15]! w[i - 7]! w[i - 2]!)) w
      = (extend n w.toList.reverse).reverse.toArray := by
  induction n with
  | zero => exact fun w _ => by simp [extend]
  | succ n ih =>
    intro w hw
    have hlt {k : Nat} (hk : k < 16) : k < w.size := Nat.lt_of_lt_of_le hk hw
    rw [List.range'_succ, List.foldl_cons, ← Array.size_push, ih _ (Array.size_push _ ▸ Nat.le_succ_of_le hw), extend_succ]
    simp only [Array.toList_push, List.reverse_append, List.reverse_cons, List.reverse_nil, List.nil_append]
    rw [getElem!_reverse w 15 (hlt (by decide)), getElem!_reverse w 14 (hlt (by decide)), getElem!_reverse w 6 (hlt (by decide)),
      getElem!_reverse w 1 (hlt (by decide))]
    rfl

theorem schedule_eq (blk : List Nat) (h : ((chunks 8 blk).map word).length = 16) :
    schedule blk = (extend 64 ((chunks 8 blk).map word).reverse).reverse.toArray := by
  have := foldl_push_nextWord 64 ((chunks 8 blk).map word).toArray (by simp [h])
  rw [List.size_toArray, h] at this
  unfold schedule
  simp only [Std.Legacy.Range.forIn_eq_forIn_range', List.forIn_pure_yield_eq_foldl, bind_pure]
  exact this

theorem map_range'_zip (k w : Array Nat) (h : k.size = w.size) :
    (List.range' 0 k.size).map (fun i => (k[i]!, w[i]!)) = k.toList.zip w.toList := by
  apply List.ext_getElem
  · simp [h]
  · intro i h1 _
    have h1 : i < k.size := by simpa using h1
    simp [h1, h ▸ h1]

theorem compress_eq_foldl (h blk : List Nat) :
    compress h blk = finish h ((List.range' 0 80).foldl (fun s i => round s (K[i]!, (schedule blk)[i]!)) (start h)) := by
  unfold compress
  simp only [Std.Legacy.Range.forIn_eq_forIn_range', Std.Legacy.Range.size, List.forIn_pure_yield_eq_foldl, bind_pure_comp,
    Id.run_map, Nat.reduceSub, Nat.reduceAdd]
  -- both sides are `finish h` of a fold; the step functions agree by unfolding `round`
  show finish h (List.foldl _ _ _) = _
  congr 2

theorem compress_eq : compress = compressL := by
  funext h blk
  simp only [compressL]
  split
  · rename_i h16
    have hl : K.size = (extend 64 ((chunks 8 blk).map word).reverse).reverse.toArray.size := by
      simp only [List.size_toArray, List.length_reverse, extend_length, h16]
      rfl
    have hz := map_range'_zip K _ hl
    rw [show K.size = 80 from rfl] at hz
    rw [compress_eq_foldl, schedule_eq blk h16, ← hz, List.foldl_map]
  · rfl

end HapVerif.RealCrypto.Sha512
