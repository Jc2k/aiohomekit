import HapVerif.Proofs.ReconnectFuel

/-! # The invariant of the connection supervisor automaton

`Sup` = `Base` (always) + `Waiting` / `Held` (connector running / ended); `Waiting` holds the preconditions of the
loop's pieces (`Run`, `Try`), so one walk through `loopTop` proves it. -/

namespace HapVerif.Reconnect

theorem initial_bounds : 4096 ≤ consts.initial ∧ consts.initial ≤ 491520 := by decide

theorem nextInterval_bounds (i : Nat) (h : 4096 ≤ i) (h2 : i ≤ 491520) :
    6144 ≤ nextInterval i ∧ nextInterval i ≤ 491520 ∧ i ≤ nextInterval i := by
  have : consts.cap = 491520 ∧ consts.num = 3 ∧ consts.den = 2 := by decide
  unfold nextInterval
  simp only [this]
  omega

/-- what every recorded back-off sleep must satisfy: between 0.75 s and 60 s -/
def obsOk : Obs → Prop
  | .sleep _ d => 6144 ≤ d ∧ d ≤ 491520
  | _ => True

structure Base (s : St) : Prop extends Excl s.failed s.hosts where
  opn : s.open_ = s.current.toList
  /-- `closedF` is `HomeKitConnection.closed` -/
  cf : s.closedF = true → s.closing = true ∧ s.current = none
  sh : s.shutdown = true → s.closing = true
  /-- between `consts.initial` (0.5 s) and `consts.cap` (60 s) -/
  ivl : 4096 ≤ s.interval ∧ s.interval ≤ 491520
  obs : ∀ o ∈ s.obs, obsOk o
  /-- not overdue; entered at most 10 s ago -/
  tw : ∀ w ∈ s.waiters, s.now ≤ w.due ∧ w.deadline ≤ s.now + consts.ensureTimeout
  fuel : s.conn ≠ .stuck

/-- `cur`: what the running connector task holds (none before the TCP connect) -/
structure Run (cur : Option ConnId) (s : St) : Prop extends Base s where
  hcur : s.current = cur
  tasks : s.liveTasks = 1
  ncl : s.closing = false

/-- inside an attempt: `_connect_once` has cleared `is_secure` -/
structure Try (cur : Option ConnId) (s : St) : Prop extends Run cur s where
  cnt : s.failed.length ≤ s.count0
  nsec : s.secure = false

/-- what the piece that resumes there asks beyond `Base` -/
def Waiting (s : St) : Conn → Prop
  | .sleeping _ => s.current = none ∧ (s.failed = [] ∨ ∀ h ∈ s.hosts, h ∈ s.failed)
  | .tcpWait _ r => s.current = none ∧ s.failed.length ≤ s.count0 ∧ s.secure = false ∧ ∀ h ∈ r, h ∈ s.hosts
  | .verifyWait _ c => s.current = some c ∧ s.failed.length ≤ s.count0 ∧ s.secure = false
  | _ => True

/-- an ended connector holds no connection, unless it succeeded and the session stands -/
def Held (s : St) : Prop :=
  s.current = none ∧ (s.closing = true ∨ s.conn = .idle ∨ s.conn = .doneAuth) ∨
    s.conn = .doneOk ∧ s.closing = false ∧ s.isConnected = true

structure Sup (s : St) : Prop extends Base s where
  /-- callers wait only on a running connector: `finish` answers them all -/
  w : s.conn.live = true ∨ s.waiters = []
  alive : s.conn.live = true → s.liveTasks = 1 ∧ s.closing = false ∧ Waiting s s.conn
  dead : s.conn.live = false → s.liveTasks = 0 ∧ Held s

theorem Sup.waiting {s : St} {c : Conn} (h : Sup s) (hc : s.conn = c) (hl : c.live = true) :
    s.liveTasks = 1 ∧ s.closing = false ∧ Waiting s c :=
  hc ▸ h.alive (hc ▸ hl)

theorem Sup.sleeping_run {s : St} {t} (h : Sup s) (hc : s.conn = .sleeping t) : Run none s := by
  obtain ⟨ht, hcl, hcur, -⟩ := h.waiting hc rfl
  exact ⟨h.toBase, hcur, ht, hcl⟩

theorem Sup.sleeping_excl {s : St} {t} (h : Sup s) (hc : s.conn = .sleeping t) :
    s.failed = [] ∨ ∀ x ∈ s.hosts, x ∈ s.failed :=
  (h.waiting hc rfl).2.2.2

theorem Sup.tcpWait_try {s : St} {t r} (h : Sup s) (hc : s.conn = .tcpWait t r) : Try none s := by
  obtain ⟨ht, hcl, hcur, hcnt, hsec, -⟩ := h.waiting hc rfl
  exact ⟨⟨h.toBase, hcur, ht, hcl⟩, hcnt, hsec⟩

theorem Sup.tcpWait_rest {s : St} {t r} (h : Sup s) (hc : s.conn = .tcpWait t r) : ∀ x ∈ r, x ∈ s.hosts :=
  (h.waiting hc rfl).2.2.2.2.2

theorem Sup.verifyWait_try {s : St} {t c} (h : Sup s) (hc : s.conn = .verifyWait t c) : Try (some c) s := by
  obtain ⟨ht, hcl, hcur, hcnt, hsec⟩ := h.waiting hc rfl
  exact ⟨⟨h.toBase, hcur, ht, hcl⟩, hcnt, hsec⟩

structure Live (s : St) : Prop where
  tasks : s.liveTasks = 1
  notClosing : s.closing = false
  notConnected : s.isConnected = false
  holds : ∀ c, s.current = some c → ∃ t, s.conn = .verifyWait t c

theorem Sup.live {s : St} (h : Sup s) (hl : s.conn.live = true) : Live s := by
  obtain ⟨ht, hcl, p⟩ := h.alive hl
  have : s.isConnected = false ∧ ∀ c, s.current = some c → ∃ t, s.conn = .verifyWait t c := by
    cases hc : s.conn <;> simp_all [Waiting, Conn.live, St.isConnected]
  exact ⟨ht, hcl, this.1, this.2⟩

theorem Held.current {s : St} (h : Held s) (hn : ¬s.isConnected = true) : s.current = none :=
  h.elim (·.1) fun x => absurd x.2.2 hn

theorem Sup.holder {s : St} {c : ConnId} (h : Sup s) (hc : s.current = some c) :
    (s.conn = .doneOk ∧ s.secure = true) ∨ ∃ t, s.conn = .verifyWait t c := by
  cases hl : s.conn.live with
  | true => exact .inr ((h.live hl).holds c hc)
  | false =>
    exact .inl ((h.dead hl).2.elim (fun x => nomatch x.1.symm.trans hc) fun x =>
      ⟨x.1, (Bool.and_eq_true_iff.mp x.2.2).2⟩)

theorem Sup.retrying {s : St} (h : Sup s) (hcl : s.closing = false) :
    s.conn = .idle ∨ s.conn.live = true ∨ s.conn = .doneAuth ∨ s.conn = .stuck ∨
    (s.conn = .doneOk ∧ s.isConnected = true) := by
  cases hl : s.conn.live with
  | true => exact .inr (.inl rfl)
  | false =>
    rcases (h.dead hl).2 with ⟨-, hx | hx | hx⟩ | ⟨hd, -, hc⟩
    · exact nomatch hcl.symm.trans hx
    · exact .inl hx
    · exact .inr (.inr (.inl hx))
    · exact .inr (.inr (.inr (.inr ⟨hd, hc⟩)))

theorem Sup.closing_dead {s : St} (h : Sup s) (hcl : s.closing = true) : s.conn.live = false :=
  Bool.eq_false_iff.mpr fun hl => nomatch (h.live hl).notClosing.symm.trans hcl

theorem Sup.connected_dead {s : St} (h : Sup s) (hc : s.isConnected = true) : s.conn.live = false :=
  Bool.eq_false_iff.mpr fun hl => nomatch (h.live hl).notConnected.symm.trans hc

theorem Sup.closing_current {s : St} (h : Sup s) (hcl : s.closing = true) : s.current = none :=
  (h.dead (h.closing_dead hcl)).2.elim (·.1) fun x => nomatch hcl.symm.trans x.2.1

theorem Sup.closing_open {s : St} (h : Sup s) (hcl : s.closing = true) : s.open_ = [] :=
  h.opn.trans (congrArg _ (h.closing_current hcl))

theorem Base.mem_open {s : St} {c : ConnId} (h : Base s) (hc : c ∈ s.open_) : s.current = some c :=
  Option.mem_toList.mp (h.opn ▸ hc)

theorem drop_stale {s : St} {c : ConnId} (h : Base s) (hc : s.current ≠ some c) : step s (.drop c) = s :=
  (step_drop s c h.opn).trans (if_neg hc)

theorem Try.ncf {cur} {s : St} (h : Try cur s) : s.closedF = false :=
  Bool.eq_false_iff.mpr fun hx => nomatch h.ncl.symm.trans (h.cf hx).1

theorem obs_snoc {l : List Obs} (h : ∀ o ∈ l, obsOk o) {o : Obs} (ho : obsOk o) : ∀ x ∈ l ++ [o], obsOk x :=
  List.forall_mem_append.mpr ⟨h, List.forall_mem_singleton.mpr ho⟩

theorem obs_waiters {l : List Obs} (h : ∀ o ∈ l, obsOk o) (ws : List Waiter) (f : Waiter → WOut) (g : Waiter → Time) :
    ∀ x ∈ l ++ ws.map (fun w => Obs.waiter w.id (f w) (g w)), obsOk x := by
  refine List.forall_mem_append.mpr ⟨h, fun x hx => ?_⟩
  obtain ⟨w, -, rfl⟩ := List.mem_map.mp hx
  trivial

theorem Base.drop {s : St} (h : Base s) : Base (dropTransport s) := by
  have ho := dropTransport_open s h.opn
  rw [dropTransport_eq] at ho ⊢
  refine { h with opn := ho, cf := fun hx => ⟨(h.cf hx).1, rfl⟩, obs := ?_ }
  refine List.forall_mem_append.mpr ⟨h.obs, fun o ho => ?_⟩
  obtain ⟨c, t, rfl⟩ := dropLog_closed s o ho
  trivial

theorem Run.drop {cur} {s : St} (h : Run cur s) : Run none (dropTransport s) := by
  have hb := h.toBase.drop
  rw [dropTransport_eq] at hb ⊢
  exact ⟨hb, rfl, h.tasks, h.ncl⟩

theorem Try.drop {cur} {s : St} (h : Try cur s) : Try none (dropTransport s) := by
  have hr := h.toRun.drop
  rw [dropTransport_eq] at hr ⊢
  exact ⟨hr, h.cnt, h.nsec⟩

/-- no connector task, nobody waiting on one -/
structure Halted (s : St) : Prop extends Base s where
  tasks : s.liveTasks = 0
  nw : s.waiters = []
  dead : s.conn.live = false

theorem Sup.halted {s : St} (h : Sup s) (hl : s.conn.live = false) : Halted s :=
  ⟨h.toBase, (h.dead hl).1, h.w.resolve_left (by simp [hl]), hl⟩

theorem Halted.sup {s : St} (h : Halted s) (hh : Held s) : Sup s :=
  { h with w := .inr h.nw, alive := (nomatch h.dead.symm.trans ·), dead := fun _ => ⟨h.tasks, hh⟩ }

theorem finish_halted {s : St} (h : Base s) (ht : s.liveTasks = 1) (c : Conn) (hl : c.live = false) (hn : c ≠ .stuck) :
    Halted (finish s c) := by
  rw [finish_eq]
  exact ⟨{ h with obs := obs_waiters h.obs _ _ _, tw := nofun, fuel := hn }, show s.liveTasks - 1 = 0 by rw [ht], rfl, hl⟩

theorem doneAuth_sup {s : St} (h : Run none s) : Sup (finish s .doneAuth) := by
  have hh := finish_halted h.toBase h.tasks .doneAuth rfl nofun
  rw [finish_eq] at hh ⊢
  exact hh.sup (.inl ⟨h.hcur, .inr (.inr rfl)⟩)

theorem doneOk_sup {c} {s : St} (h : Try (some c) s) : Sup (finish { s with secure := true } .doneOk) := by
  have hh := finish_halted (s := { s with secure := true }) { h with } h.tasks .doneOk rfl nofun
  rw [finish_eq] at hh ⊢
  refine hh.sup (.inr ⟨rfl, h.ncl, ?_⟩)
  show (s.current.isSome && !s.closedF && true) = true
  simp [h.hcur, h.ncf]

theorem backoff_sup {s : St} (h : Run none s)
    (hf : s.failed.length ≤ s.count0 ∨ ∀ x ∈ s.hosts, x ∈ s.failed) : Sup (backoff s) := by
  have hb := nextInterval_bounds s.interval h.ivl.1 h.ivl.2
  refine { h with toExcl := backoff_excl h.toExcl, ivl := ⟨Nat.le_trans h.ivl.1 hb.2.2, hb.2.1⟩,
                  obs := obs_snoc h.obs ⟨hb.1, hb.2.1⟩, fuel := nofun, w := .inl rfl,
                  alive := fun _ => ⟨h.tasks, h.ncl, h.hcur, ?_⟩, dead := nofun }
  -- stale exclusions are forgotten; what is kept covers every address
  by_cases hn : (!s.failed.isEmpty && decide (s.failed.length ≤ s.count0)) = true
  · exact .inl (if_pos hn)
  · rw [show (backoff s).failed = s.failed from if_neg hn]
    exact hf.imp (fun hle => by simpa [hle] using hn) fun hall => hall

theorem backoff_try {s : St} (h : Try none s) : Sup (backoff s) :=
  backoff_sup h.toRun (.inl h.cnt)

theorem prepare_try {s : St} (h : Run none s) : Try none (prepare s).1 := by
  have p := prepared h.toExcl
  rw [p.frame]
  exact { h with toExcl := p.excl, cnt := p.cnt, nsec := rfl }

theorem dialled_try {s : St} (h : Try none s) (as : List Host) : Try none (dialled s as) :=
  { h with obs := obs_snoc h.obs trivial }

theorem opened_try {s : St} (h : Try none s) (a : Host) : Try (some s.nextId) (opened s a) := by
  have ho : s.open_ = [] := h.opn.trans (congrArg _ h.hcur)
  exact { h with opn := show s.open_ ++ [s.nextId] = _ by rw [ho]; rfl
                 cf := fun hx => nomatch h.ncf.symm.trans hx
                 obs := obs_snoc h.obs trivial
                 hcur := rfl }

def Post : St × Bool → Prop := Exit (Run none) Sup

theorem verdict_post {c} {s : St} (h : Try (some c) s) (hcur : ∀ x, s.curHost = some x → x ∈ s.hosts) (v : Ver) :
    Post (verifyVerdict s v) := by
  cases v with
  | ok => exact doneOk_sup h
  | auth => exact doneAuth_sup h.drop.toRun
  | fail => exact backoff_try h.drop
  | hang =>
    rw [verifyVerdict_hang h.hcur]
    exact { h with fuel := nofun, w := .inl rfl, alive := fun _ => ⟨h.tasks, h.ncl, h.hcur, h.cnt, h.nsec⟩, dead := nofun }
  | okLost =>
    rw [verifyVerdict_okLost h.hcur]
    split
    · exact doneOk_sup h
    · refine backoff_sup { h with opn := ?_, cf := fun hx => ⟨(h.cf hx).1, rfl⟩, hcur := rfl } (.inl h.cnt)
      simp [h.opn, h.hcur]
  | wrongId =>
    -- `{ h with … }` retypes `h`: no other field of `Run` mentions `failed`
    have hw : Run none (wrongIdState s) := Run.drop (cur := some c) { h with toExcl := exclude_excl h.toExcl hcur }
    rw [verifyVerdict_wrongId]
    split
    · exact hw
    · rename_i hg
      refine backoff_sup hw ?_
      by_cases hl : (wrongIdState s).count0 < (wrongIdState s).failed.length
      · exact .inr fun x hx => Decidable.by_contra fun hn => hg (retry_iff.mpr ⟨hl, x, hx, hn⟩)
      · exact .inl (Nat.le_of_not_lt hl)

theorem tcpPhase_post (as : List Host) {s : St} (h : Try none s) (has : ∀ x ∈ as, x ∈ s.hosts) :
    Post (tcpPhase as s) := by
  induction as generalizing s with
  | nil => exact backoff_try h
  | cons a as ih =>
    have h1 := dialled_try h (a :: as)
    have hr := fun x hx => has x (List.mem_cons_of_mem _ hx)
    rw [tcpPhase_cons]
    split
    · exact ih h1 hr
    · exact { h1 with fuel := nofun, w := .inl rfl, alive := fun _ => ⟨h.tasks, h.ncl, h.hcur, h.cnt, h.nsec, hr⟩,
                      dead := nofun }
    · exact verdict_post (opened_try h1 _) (opened_curHost (has _ (getD_mem a as _))) _

theorem loopTop_sup_or (fuel : Nat) {s : St} (h : Run none s) :
    (loopTop fuel s).conn = .stuck ∨ Sup (loopTop fuel s) := by
  induction fuel generalizing s with
  | zero => exact .inl rfl
  | succ n ih =>
    rw [loopTop_succ]
    split
    · exact nomatch h.ncl.symm.trans ‹s.closing = true›   -- `close()` cancels the task first
    · have hp := tcpPhase_post (prepare s).2 (prepare_try h) (prepared h.toExcl).targets
      split
      · exact ih (hp.again ‹_›)
      · exact .inr (hp.done (Bool.eq_false_iff.mpr ‹_›))

theorem loopTop_sup {s : St} (h : Run none s) : Sup (loopTop (fuelFor s) s) :=
  (loopTop_sup_or _ h).resolve_left (loopTop_fuel _ h.toExcl (.inr (Nat.le_refl _)))

theorem timer_sup {s : St} (h : Sup s) : Sup (connectorTimer s) := by
  unfold connectorTimer
  split
  · exact loopTop_sup (h.sleeping_run ‹_›)
  · have hp := tcpPhase_post ‹_› (h.tcpWait_try ‹_›) (h.tcpWait_rest ‹_›)
    generalize tcpPhase _ s = r at hp ⊢
    obtain ⟨s', again⟩ := r
    cases again
    · exact hp
    · exact loopTop_sup hp
  · exact backoff_try (h.verifyWait_try ‹_›).drop
  · exact h

theorem fire_sup {s : St} (h : Sup s) (t : Time) : Sup (fireWaiters s t) := by
  refine { h with obs := obs_waiters h.obs _ _ _, w := h.w.imp id fun hw => ?w, tw := fun w hw => ?tw }
  case w => simp [fireWaiters, hw]
  case tw =>
    -- the clock moves to `max s.now t`; who still waits is due after `t`
    obtain ⟨hm, hd⟩ := List.mem_filter.mp hw
    have hlt : t < w.due := Nat.lt_of_not_le (of_decide_eq_true hd)
    exact ⟨Nat.max_le.mpr ⟨(h.tw w hm).1, Nat.le_of_lt hlt⟩,
      Nat.le_trans (h.tw w hm).2 (Nat.add_le_add_right (Nat.le_max_left _ _) _)⟩

theorem startConnector_sup {s : St} (h : Base s) (ht : s.liveTasks = 0) (hcur : s.current = none)
    (hl : s.conn.live = false) (hcl : s.closing = false) : Sup (startConnector s) := by
  unfold startConnector
  rw [if_neg (by simp [hl, St.isConnected, hcur])]
  exact loopTop_sup { h with ivl := initial_bounds, hcur := hcur, tasks := congrArg (· + 1) ht, ncl := hcl }

/-- `_start_reconnecting` past its guard; `ws`: a caller was just registered -/
theorem restart_sup {s : St} (h : Sup s) (hsh : ¬s.shutdown = true) (hc : ¬s.isConnected = true) (ws : List Waiter)
    (hws : ∀ w ∈ ws, s.now ≤ w.due ∧ w.deadline ≤ s.now + consts.ensureTimeout) :
    Sup (startReconnecting { s with waiters := ws }).1 := by
  have e : (startReconnecting { s with waiters := ws }).1 =
      startConnector { s with waiters := ws, closing := false, closedF := false } :=
    (startReconnecting_fst _).trans (if_neg hc)
  rw [e]
  have hb : Base { s with waiters := ws, closing := false, closedF := false } :=
    { h with cf := nofun, sh := (absurd · hsh), tw := hws }
  cases hl : s.conn.live with
  | false => exact startConnector_sup hb (h.dead hl).1 ((h.dead hl).2.current hc) hl rfl
  | true =>
    -- `Waiting` mentions neither `waiters` nor `closing` nor `closedF`
    rw [startConnector, if_pos (Bool.or_eq_true_iff.mpr (.inl hl))]
    exact { hb with w := .inl hl, alive := fun _ => ⟨(h.alive hl).1, rfl, (h.alive hl).2.2⟩, dead := (nomatch hl.symm.trans ·) }

theorem reconnectSoon_sup {s : St} (h : Sup s) (hsh : ¬s.shutdown = true) : Sup (reconnectSoon s) := by
  unfold reconnectSoon
  split
  · exact loopTop_sup (h.sleeping_run ‹_›)
  · by_cases hc : s.isConnected = true
    · rwa [startReconnecting_fst, if_pos hc]
    · exact restart_sup h hsh hc s.waiters h.tw

theorem ensure_sup {s : St} (h : Sup s) (id : Nat) (own : Option Nat) : Sup (step s (.ensure id own)) := by
  rw [step]
  split
  · exact { h with obs := obs_snoc h.obs trivial }
  · rename_i hg
    simp only [Bool.or_eq_true, not_or] at hg
    -- the caller is registered first; its deadlines lie ahead
    refine restart_sup h hg.1 hg.2 _ fun w hw => ?_
    rcases List.mem_append.mp hw with hw | hw
    · exact h.tw w hw
    · obtain rfl := List.mem_singleton.mp hw
      cases own <;> simp [Waiter.due]

/-- `_stop_connector` under `closing`; the transport may remain -/
theorem stop_halted {s : St} (h : Sup s) (b : Bool) :
    Halted (stopConnector { s with shutdown := b, closing := true }) := by
  have hb : Base { s with shutdown := b, closing := true } :=
    { h with cf := fun hx => ⟨rfl, (h.cf hx).2⟩, sh := fun _ => rfl }
  rcases stopConnector_cases { s with shutdown := b, closing := true } with ⟨hl, e⟩ | ⟨hl, e | e⟩
  · rw [e]
    exact { h.halted hl with toBase := hb }
  · exact e ▸ finish_halted hb (h.live hl).tasks .cancelled rfl nofun
  · have hd := hb.drop
    rw [dropTransport_eq] at hd e
    exact e ▸ finish_halted hd (h.live hl).tasks .cancelled rfl nofun

theorem close_sup {s : St} (h : Sup s) (b : Bool) : Sup (closeConn { s with shutdown := b }) := by
  rw [closeConn_eq]
  have h1 := stop_halted h b
  have hcl := (stopConnector_flags { s with shutdown := b, closing := true }).1
  generalize stopConnector _ = s1 at h1 hcl
  have hd := h1.toBase.drop
  rw [dropTransport_eq] at hd ⊢
  exact Halted.sup { h1 with toBase := { hd with cf := fun _ => ⟨hcl, rfl⟩ } } (.inl ⟨rfl, .inl hcl⟩)

theorem drop_sup {s : St} (h : Sup s) (c : ConnId) : Sup (step s (.drop c)) := by
  rw [step_drop s c h.opn]
  split
  next hcur =>
    have hb : Base { s with open_ := [], current := none } := { h with opn := rfl, cf := fun hx => ⟨(h.cf hx).1, rfl⟩ }
    split
    next t c' hv => exact backoff_try { h.verifyWait_try hv with toBase := hb, hcur := rfl }
    next hnv =>
      -- its holder is an ended connector
      have hl : s.conn.live = false := (h.holder hcur).elim (fun hd => hd.1 ▸ rfl) fun ⟨t, hv⟩ => absurd hv (hnv t c)
      have hcl : ¬s.closing = true := fun hcl => nomatch (h.closing_current hcl).symm.trans hcur
      rw [if_neg hcl]
      exact startConnector_sup hb (h.dead hl).1 rfl hl (Bool.eq_false_iff.mpr hcl)
  next => exact h

theorem step_sup {s : St} (h : Sup s) (e : Ev) : Sup (step s e) := by
  cases e with
  | adv dt => exact advanceTo_ind (P := Sup) (fun _ t h => fire_sup h t) (fun _ h => timer_sup h) _ _ h
  | ensure id own => exact ensure_sup h id own
  | cancelW i =>
    exact { h with obs := obs_waiters h.obs _ _ _, tw := fun w hw => h.tw w (List.mem_filter.mp hw).1
                   w := h.w.imp id fun hw => by simp [step, hw] }
  | soon =>
    rw [step]
    split
    · exact h
    · exact reconnectSoon_sup h ‹_›
  | descr hs =>
    rw [step]
    split
    · exact h
    · exact reconnectSoon_sup (s := { s with desc := some hs }) { h with } ‹_›
  | close => exact close_sup h s.shutdown
  | shutdown => exact close_sup h true
  | pushTcp | pushVer => exact { h with }
  | drop c => exact drop_sup h c

theorem init_sup (hosts : List Host) : Sup (init hosts) :=
  { sub := nofun, nd := .nil, opn := rfl, cf := nofun, sh := nofun, ivl := initial_bounds, obs := nofun, tw := nofun,
    fuel := nofun, w := .inr rfl, alive := nofun, dead := fun _ => ⟨rfl, .inl ⟨rfl, .inr (.inl rfl)⟩⟩ }

theorem run_sup_from {s : St} (h : Sup s) (evs : List Ev) : Sup (run s evs) :=
  List.foldlRecOn evs step h fun _ h e _ => step_sup h e

theorem run_sup (hosts : List Host) (evs : List Ev) : Sup (run (init hosts) evs) :=
  run_sup_from (init_sup hosts) evs

/-- the flat form that `C11_invariant` exports, read off `Sup` by `Sup.inv` -/
structure Inv (s : St) : Prop where
  opn : s.open_ = s.current.toList
  curNone : s.conn ≠ .doneOk → (∀ t c, s.conn ≠ .verifyWait t c) → s.current = none
  curVer : ∀ t c, s.conn = .verifyWait t c → s.current = some c
  curOk : s.conn = .doneOk → s.current.isSome = true → s.secure = true
  tasks : s.liveTasks = if s.conn.live then 1 else 0
  clo : s.closing = true → s.conn.live = false
  cf : s.closedF = true → s.closing = true ∧ s.current = none
  sh : s.shutdown = true → s.closing = true
  ivl : 4096 ≤ s.interval ∧ s.interval ≤ 491520
  mid : ((∃ t r, s.conn = .tcpWait t r) ∨ (∃ t c, s.conn = .verifyWait t c)) → s.failed.length ≤ s.count0
  slp : ∀ t, s.conn = .sleeping t → s.failed = [] ∨ ∀ h ∈ s.hosts, h ∈ s.failed
  obs : ∀ o ∈ s.obs, obsOk o

theorem Sup.inv {s : St} (h : Sup s) : Inv s :=
  { h with
    curNone := fun hd hv => by
      cases hcur : s.current with
      | none => rfl
      | some c => exact (h.holder hcur).elim (fun hd' => absurd hd'.1 hd) fun ⟨t, hv'⟩ => absurd hv' (hv t c)
    curVer := fun t c hv => (h.verifyWait_try hv).hcur
    curOk := fun hd hs => by
      obtain ⟨c, hc⟩ := Option.isSome_iff_exists.mp hs
      exact (h.holder hc).elim (·.2) fun ⟨t, hv⟩ => nomatch hd.symm.trans hv
    tasks := by
      cases hl : s.conn.live with
      | false => exact (h.dead hl).1
      | true => exact (h.live hl).tasks
    clo := h.closing_dead
    mid := by
      rintro (⟨t, r, hc⟩ | ⟨t, c, hc⟩)
      · exact (h.tcpWait_try hc).cnt
      · exact (h.verifyWait_try hc).cnt
    slp := fun t hc => h.sleeping_excl hc }

/-- in the middle of an attempt (TCP connect or pair-verify pending) the session is not marked secure -/
def V (s : St) : Prop :=
  match s.conn with
  | .tcpWait _ _ | .verifyWait _ _ => s.secure = false
  | _ => True

theorem stopConnector_inv (s : St) (h : Inv s) (hcl : s.closing = true) :
    Inv (stopConnector s) ∧ (stopConnector s).conn.live = false ∧ (stopConnector s).closing = true := by
  rw [stopConnector_idle s (h.clo hcl)]
  exact ⟨h, h.clo hcl, hcl⟩

theorem V_dropTransport (s : St) (h : V s) : V (dropTransport s) := by
  rw [dropTransport_eq]
  exact h

theorem V_stopConnector (s : St) (h : V s) : V (stopConnector s) := by
  unfold stopConnector
  split
  · trivial
  · trivial
  · trivial
  · exact h

theorem finish_secure (s : St) (c : Conn) : (finish s c).secure = s.secure := by
  rw [finish_eq]

theorem wrongIdState_secure (s : St) : (wrongIdState s).secure = s.secure := by
  rw [wrongIdState, dropTransport_eq]

end HapVerif.Reconnect
