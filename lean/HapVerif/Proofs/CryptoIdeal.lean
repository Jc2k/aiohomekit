import HapVerif.Model.Crypto.Abstract

/-! A toy instance of the crypto interface (not secure: DH is XOR, signatures and tags are in the clear) for which every
law is proved; it only shows that the hypothesis `Crypto.Laws C` of the property theorems is satisfiable. -/

namespace HapVerif.Ideal

/-- zero-pad or truncate to `n` bytes -/
def fix (n : Nat) (b : Bytes) : Bytes := (b ++ List.replicate n 0).take n

theorem fix_length (n : Nat) (b : Bytes) : (fix n b).length = n := by simp [fix]

def xorB (a b : Bytes) : Bytes := List.zipWith (· ^^^ ·) a b

def tag (k n a : Bytes) : Bytes := fix 16 (k ++ n ++ a)

theorem tag_length (k n a : Bytes) : (tag k n a).length = 16 := fix_length ..

def ideal : Crypto where
  hkdf ikm salt info len := fix len (ikm ++ salt ++ info)
  aeadSeal k n a p := p ++ tag k n a
  aeadOpen k n a c := if c.length ≥ 16 ∧ c.drop (c.length - 16) = tag k n a then some (c.take (c.length - 16)) else none
  dhPub sk := fix 32 sk
  dh sk pk := xorB (fix 32 sk) pk
  edPub sk := fix 32 sk
  edSign sk m := fix 32 sk ++ m
  edVerify pk m s := s == pk ++ m

theorem ideal_laws : Crypto.Laws ideal where
  open_seal k n a p := by
    simp only [ideal, List.length_append, tag_length, Nat.add_sub_cancel, ge_iff_le, Nat.le_add_left, List.drop_left, List.take_left,
      and_self, if_true]
  open_sound k n a c p h := by
    simp only [ideal] at h
    split at h
    next hc =>
      cases h
      show c = c.take (c.length - 16) ++ tag k n a
      rw [← hc.2, List.take_append_drop]
    next => cases h
  dh_comm a b := List.zipWith_comm_of_comm UInt8.xor_comm
  verify_sign sk m := beq_self_eq_true _
  verify_sound sk m s h := eq_of_beq h
  sign_inj sk m m' h := List.append_cancel_left h
  seal_inj k n a p k' n' a' p' h := (List.append_inj' h ((tag_length ..).trans (tag_length ..).symm)).1
  pubLen sk := fix_length _ _
  edPubLen sk := fix_length _ _

end HapVerif.Ideal
