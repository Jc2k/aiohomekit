import HapVerif.Model.Srp
import HapVerif.Proofs.SrpGen
import HapVerif.Proofs.Bytes
import Mathlib.Data.Int.ModEq

/-! The arithmetic behind C02: `powMod` is `b ^ e % m`; `pad_left ∘ to_byte_array` is the fixed-width big-endian form
`natToBe` (whose length, value and uniqueness are in `Proofs/Bytes.lean`); the SRP-6a agreement, over `ℤ` because `B - k v` may be negative. -/

namespace HapVerif.Srp
open HapVerif

theorem powMod_eq (b e m : Nat) : powMod b e m = b ^ e % m := by
  fun_induction powMod b e m
  next => rfl                          -- e = 0
  next e _ half sq hodd ih =>          -- e odd
    have hpow : b ^ e = b ^ (e / 2) * b ^ (e / 2) * b := by
      rw [← Nat.pow_add, ← Nat.pow_succ, ← Nat.two_mul, Nat.succ_eq_add_one, ← hodd, Nat.div_add_mod]
    simp only [sq, half, ih, hpow]
    rw [Nat.mul_mod (b ^ (e / 2) * b ^ (e / 2)), Nat.mul_mod (b ^ (e / 2))]
  next e _ half sq hodd ih =>          -- e even
    have hpow : b ^ e = b ^ (e / 2) * b ^ (e / 2) := by
      rw [← Nat.pow_add, ← Nat.two_mul, ← Nat.add_zero (2 * (e / 2)), ← (Nat.mod_two_eq_zero_or_one e).resolve_right hodd,
        Nat.div_add_mod]
    simp only [sq, half, ih, hpow]
    rw [Nat.mul_mod (b ^ (e / 2))]

theorem toByteArray_val (n : Nat) : beToNat (toByteArray n) = n := by
  fun_induction toByteArray n
  next => rfl                          -- n = 0
  next n _ ih =>                       -- n ≠ 0
    rw [beToNat_concat, ih, UInt8.toNat_ofNat_of_lt' (show n % 256 < 256 from Nat.mod_lt _ (by decide)), Nat.mul_comm, Nat.div_add_mod]

theorem toByteArray_length (len n : Nat) (h : n < 256 ^ len) : (toByteArray n).length ≤ len := by
  fun_induction toByteArray n generalizing len
  next => exact Nat.zero_le _          -- n = 0
  next n hn ih =>                      -- n ≠ 0, so len ≠ 0
    cases len with
    | zero => exact absurd (Nat.lt_one_iff.mp h) hn
    | succ len =>
      rw [List.length_append]
      exact Nat.succ_le_succ (ih len ((Nat.div_lt_iff_lt_mul (by decide)).mpr h))

theorem padLeft_eq_PAD (len n : Nat) (h : n < 256 ^ len) :
    padLeft (toByteArray n) len = natToBe len n := by
  apply beToNat_inj
  · rw [padLeft, List.length_append, List.length_replicate, natToBe_length, Nat.sub_add_cancel (toByteArray_length len n h)]
  · rw [padLeft, beToNat_zeros, toByteArray_val, natToBe_val len n h]

/-- the integer round trip of `set_salt` -/
theorem salt_roundtrip (s : Bytes) : padLeft (toByteArray (beToNat s)) s.length = s := by
  rw [padLeft_eq_PAD _ _ (beToNat_lt s)]
  exact beToNat_inj _ _ (natToBe_length ..) (natToBe_val _ _ (beToNat_lt s))

theorem srp_agree {N g k v A B gb w : ℤ} {x a b u : ℕ} (hv : v ≡ g ^ x [ZMOD N]) (hA : A ≡ g ^ a [ZMOD N])
    (hgb : gb ≡ g ^ b [ZMOD N]) (hB : B ≡ k * v + gb [ZMOD N]) (hw : w ≡ v ^ u [ZMOD N]) :
    (B - k * v) ^ (a + u * x) ≡ (A * w) ^ b [ZMOD N] :=
  calc (B - k * v) ^ (a + u * x) ≡ (k * v + g ^ b - k * v) ^ (a + u * x) [ZMOD N] := ((hB.trans (hgb.add_left _)).sub_right _).pow _
    _ = (g ^ a * (g ^ x) ^ u) ^ b := by
      rw [add_sub_cancel_left, ← pow_mul, ← pow_mul, ← pow_add, ← pow_mul, Nat.mul_comm x, Nat.mul_comm b]
    _ ≡ (A * w) ^ b [ZMOD N] := ((hA.mul (hw.trans (hv.pow _))).pow _).symm

/-- Python's sign-correct `%` of the possibly negative base is the `%` of `ℤ` -/
theorem sharedSecret_cast (B k g x n a u : Nat) (hn : 0 < n) :
    ((sharedSecret B k g x n a u : Nat) : ℤ) = ((B : ℤ) - k * ((g : ℤ) ^ x % n)) ^ (a + u * x) % n := by
  unfold sharedSecret
  simp only [powMod_eq]
  rw [Int.natCast_mod, Int.natCast_pow, Int.toNat_of_nonneg (Int.emod_nonneg _ (Int.natCast_pos.mpr hn).ne')]
  exact (Int.mod_modEq _ _).pow _

theorem client_A_b (H : Bytes → Bytes) (G : Group) (I P salt Bb : Bytes) (a : Nat) (hfit : G.g ^ a % G.N < 256 ^ G.keyLen) :
    (client H G I P salt Bb a).A_b = natToBe G.keyLen (G.g ^ a % G.N) := by
  simp only [client, powMod_eq]
  exact padLeft_eq_PAD _ _ hfit

end HapVerif.Srp

namespace HapVerif.SrpGen

/-- with `Function.update`: under the definition's closure `simp` checks its steps by evaluating string comparisons -/
theorem exec_cons (env calls : Env) (n e rest) :
    exec env calls ((n, e) :: rest) = exec (Function.update env n (eval env calls e)) calls rest :=
  congrArg (exec · calls rest) (funext fun _ => (Function.update_apply ..).symm)

theorem exec_nil (env calls : Env) : exec env calls [] = env := rfl

end HapVerif.SrpGen
