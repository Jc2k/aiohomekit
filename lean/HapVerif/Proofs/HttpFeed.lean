import HapVerif.Proofs.Http

/-! Consumption bounds, stability of a complete message, and `feed (a ++ b) = feed a ; feed b`. -/

namespace HapVerif.Http

/-- an empty chunk was seen only together with the DONE state -/
def WFc (c : Core) : Prop := c.hadEmpty = true → c.state = 3

theorem WFc_fresh : WFc ({} : Core) := nofun

/-- the header block at the front of `q`'s buffer, if it is there in full, announces a single framing -/
def GoodAt (q : P) : Prop := ∀ p1, H q = .ok p1 → 2 ≤ p1.core.state → good p1.core

/-- what a phase of `parse` does: `q` is `p` untouched, or `p` with part of its buffer consumed; `WFc` stays -/
structure Ate (p q : P) : Prop where
  less : q = p ∨ q.raw.length < p.raw.length
  wf : WFc p.core → WFc q.core

theorem Ate.refl (p : P) : Ate p p := ⟨.inl rfl, id⟩

theorem Ate.trans {a b c : P} (h1 : Ate a b) (h2 : Ate b c) : Ate a c := by
  refine ⟨?_, h2.wf ∘ h1.wf⟩
  rcases h1.less with rfl | h1
  · exact h2.less
  · rcases h2.less with rfl | h2
    · exact .inr h1
    · exact .inr (Nat.lt_trans h2 h1)

theorem headLine_hadEmpty (c c' : Core) (line : Bytes) (h : headLine c line = .ok c') :
    c'.hadEmpty = c.hadEmpty := by
  revert h
  fun_cases headLine c line <;> intro h <;> first | (cases h; rfl) | cases h

theorem headLoop_ate (f : Nat) (p p' : P) (h : headLoop f p = .ok p') : Ate p p' := by
  fun_induction headLoop f p
  next => cases h; exact .refl _
  next => cases h; exact .refl _
  next => cases h; exact .refl _
  next => cases h
  -- a line that is taken: below state 2 a well-formed core has seen no empty chunk
  next f p hst pos hpos c hc ih =>
    have hb := findCRLF_bound _ _ hpos
    refine Ate.trans ⟨.inr (by simp only [List.length_drop]; omega), fun hw he => ?_⟩ (ih h)
    rw [headLine_hadEmpty _ _ _ hc] at he
    exact absurd (hw he) (by omega)

theorem chunkLoop_ate (f : Nat) (p p' : P) (h : chunkLoop f p = .ok p') : Ate p p' := by
  fun_induction chunkLoop f p
  next => cases h; exact .refl _
  next => cases h; exact .refl _
  next => cases h
  next => cases h; exact .refl _
  -- the zero chunk sets the flag and state 3 together
  next f p pos hpos rest _ _ =>
    have hb := findCRLF_bound _ _ hpos
    cases h
    exact ⟨.inr (by simp only [rest, List.length_drop]; omega), fun _ _ => rfl⟩
  -- a chunk
  next f p pos hpos rest len _ _ _ ih =>
    have hb := findCRLF_bound _ _ hpos
    refine Ate.trans ?_ (ih h)
    exact ⟨.inr (by simp only [rest, List.length_drop]; omega), id⟩

theorem CP_ate {p q : P} (h : CP p = .ok q) : Ate p q := by
  unfold CP chunkPhase at h
  split at h
  · exact chunkLoop_ate _ _ _ h
  · cases h
    exact .refl _

theorem bodyStep_ate (p : P) : Ate p (bodyStep p) := by
  obtain ⟨c, raw⟩ := p
  rw [bodyStep_eq]
  refine ⟨?_, id⟩
  by_cases h0 : need c = 0 ∨ raw = []
  · left
    rcases h0 with h0 | h0 <;> simp [h0]
  · have := List.length_pos_iff.mpr (not_or.mp h0).2
    exact .inr (by simp only [List.length_drop]; omega)

theorem norm'_ate {p q : P} (h : norm' p = .ok q) : Ate p q := by
  unfold norm' at h
  cases h1 : H p with
  | error e => rw [h1] at h; cases h
  | ok p1 =>
    rw [h1, Except.ok_bind] at h
    cases h2 : CP p1 with
    | error e => rw [h2] at h; cases h
    | ok p2 =>
      rw [h2, Except.ok_bind] at h
      cases h
      exact (headLoop_ate _ _ _ h1).trans ((CP_ate h2).trans (bodyStep_ate p2))

theorem complete_stable (q : P) (d : Bytes) (hc : q.core.complete = true) (hw : WFc q.core) :
    norm' (app q d) = .ok (app q d) := by
  unfold Core.complete at hc
  by_cases hch : q.core.chunked = true
  · rw [if_pos hch] at hc
    have hs := hw hc
    rw [norm'_of_state _ (by simp [hs]), CP_of_not _ (by simp [hs]), Except.ok_bind, bodyStep_noop _ (by simp [need, hs])]
    rfl
  · rw [if_neg hch] at hc
    by_cases hst : q.core.state < 2
    · rw [if_pos hst] at hc; cases hc
    · rw [if_neg hst] at hc
      rw [norm'_of_state _ (by simp; omega), CP_of_not _ (by simp [hch]), Except.ok_bind, bodyStep_noop _ ?_]
      · rfl
      · unfold need
        split at hc
        · rename_i n hn
          simp [hn, of_decide_eq_true hc]
        · rename_i hn
          simp [hn]

theorem norm'_idem (p p1 : P) (hg : GoodAt p) (h : norm' p = .ok p1) : norm' p1 = .ok p1 := by
  have := norm_app p [] hg
  rwa [h, Except.ok_bind, app_nil, app_nil, h] at this

theorem norm'_app_of_complete {p p' : P} {a : Bytes} (b : Bytes) (hgat : GoodAt (app p a))
    (hn : norm' (app p a) = .ok p') (hc : p'.core.complete = true) (hw : WFc p.core) :
    norm' (app p (a ++ b)) = .ok (app p' b) := by
  rw [← app_app, ← norm_app _ b hgat, hn, Except.ok_bind, complete_stable p' b hc ((norm'_ate hn).wf hw)]

/-- invariant of the parser object between two reads: it is a fixed point of one parse call
    (nothing more can be consumed from its buffer), it is not complete, and it is well-formed -/
def INV (p : P) : Prop := norm' p = .ok p ∧ p.core.complete = false ∧ WFc p.core

theorem INV.fixed {p : P} (h : INV p) : norm' p = .ok p := h.1

theorem INV.waiting {p : P} (h : INV p) : p.core.complete = false := h.2.1

theorem INV.wf {p : P} (h : INV p) : WFc p.core := h.2.2

theorem INV_fresh : INV {} := ⟨by decide, by decide, WFc_fresh⟩

theorem raw_lt_of_complete (p p' : P) (d : Bytes) (hinv : INV p) (h : norm' (app p d) = .ok p')
    (hc : p'.core.complete = true) : p'.raw.length < p.raw.length + d.length := by
  rcases (norm'_ate h).less with rfl | h1
  · rw [app_core, hinv.waiting] at hc
    cases hc
  · simpa using h1

theorem INV_of_wait (p p' : P) (d : Bytes) (hinv : INV p) (hg : GoodAt (app p d))
    (h : norm' (app p d) = .ok p') (hc : p'.core.complete = false) : INV p' :=
  ⟨norm'_idem _ _ hg h, hc, (norm'_ate h).wf hinv.wf⟩

/-- Side condition on a stream `a` read from parser state `p` (message after message): no header
    block that ends inside `a` announces both `Transfer-Encoding: chunked` and a positive
    `Content-Length` (RFC 7230 §3.3.3 forbids the combination; the real parser is
    split-dependent on it, see DESIGN.md C07). -/
inductive GoodRun : P → Bytes → Prop
  | nil (p : P) : GoodRun p []
  | err (p : P) (d : Bytes) (e : Err) : GoodAt (app p d) → norm' (app p d) = .error e → GoodRun p d
  | wait (p p' : P) (d : Bytes) : GoodAt (app p d) → norm' (app p d) = .ok p' →
      p'.core.complete = false → GoodRun p d
  | msg (p p' : P) (d : Bytes) : GoodAt (app p d) → norm' (app p d) = .ok p' →
      p'.core.complete = true → GoodRun {} p'.raw → GoodRun p d

/-- a header block that is complete in a prefix of the buffer is the header block of the whole buffer -/
theorem GoodAt_of_app (q : P) (b : Bytes) (h : GoodAt (app q b)) : GoodAt q := by
  intro p1 h1 hst
  have := H_app q b
  rw [h1, Except.ok_bind, H_of_state (app p1 b) hst] at this
  exact h (app p1 b) this.symm hst

/-- the case analysis behind every case of `GoodRun_of_append`; `hmsg`: a message that `a` completes,
    `a ++ b` completes too, leaving `b` behind it -/
theorem GoodRun_prefix_step (p : P) (a b : Bytes) (hw : WFc p.core) (hgat : GoodAt (app p (a ++ b)))
    (hmsg : ∀ p'', norm' (app p (a ++ b)) = .ok (app p'' b) → p''.core.complete = true → GoodRun {} p''.raw) :
    GoodRun p a := by
  have hga := GoodAt_of_app (app p a) b (by rwa [app_app])
  cases hn' : norm' (app p a) with
  | error e' => exact GoodRun.err p a e' hga hn'
  | ok p'' =>
    by_cases hc'' : p''.core.complete = true
    · exact GoodRun.msg p p'' a hga hn' hc'' (hmsg p'' (norm'_app_of_complete b hga hn' hc'' hw) hc'')
    · exact GoodRun.wait p p'' a hga hn' (by simpa using hc'')

theorem GoodRun_of_append (p : P) (d : Bytes) (hg : GoodRun p d) (hw : WFc p.core) :
    ∀ a b, d = a ++ b → GoodRun p a := by
  induction hg with
  | nil p =>
    intro a b h
    rw [(List.append_eq_nil_iff.mp h.symm).1]; exact GoodRun.nil p
  | err p d e hgat hn =>
    rintro a b rfl
    exact GoodRun_prefix_step p a b hw hgat fun p'' h _ => by rw [hn] at h; cases h
  | wait p p' d hgat hn hc =>
    rintro a b rfl
    exact GoodRun_prefix_step p a b hw hgat fun p'' h hc'' => by
      rw [hn] at h; cases h; rw [app_core, hc''] at hc; cases hc
  | msg p p' d hgat hn hc _ ih =>
    rintro a b rfl
    exact GoodRun_prefix_step p a b hw hgat fun p'' h _ => by
      rw [hn] at h; cases h; exact ih WFc_fresh p''.raw b rfl

theorem feed_nil (p : P) : feed p [] = ([], .ok p) := by
  simp [feed, feedLoop]

theorem feedLoop_fuel (f : Nat) : ∀ (p : P) (d : Bytes), INV p → p.raw.length + d.length < f →
    feedLoop f p d = match norm' (app p d) with
      | .error e => ([], .error e)
      | .ok p' => if p'.core.complete then (p'.core.msg :: (feed {} p'.raw).1, (feed {} p'.raw).2)
                  else ([], .ok p') := by
  induction f using Nat.strongRecOn with
  | _ f ih =>
    intro p d hinv hf
    obtain _ | f := f
    · omega
    rw [feedLoop]
    split
    · rename_i hd
      rw [hd, app_nil, hinv.fixed]
      simp only [hinv.waiting, Bool.false_eq_true, if_false]
    · rw [norm_eq]
      cases hX : norm' (app p d) with
      | error e => rfl
      | ok p' =>
        simp only
        split
        · rename_i hc
          have hs := raw_lt_of_complete p p' d hinv hX hc
          rw [feed, ih f (Nat.lt_succ_self f) {} p'.raw INV_fresh (by simp; omega),
            ih _ (by simp; omega) {} p'.raw INV_fresh (Nat.lt_succ_self _)]
        · rfl

theorem feed_step (p : P) (d : Bytes) (hinv : INV p) :
    feed p d = match norm' (app p d) with
      | .error e => ([], .error e)
      | .ok p' => if p'.core.complete then (p'.core.msg :: (feed {} p'.raw).1, (feed {} p'.raw).2)
                  else ([], .ok p') :=
  feedLoop_fuel _ p d hinv (Nat.lt_succ_self _)

theorem feed_append : ∀ (n : Nat) (p : P) (a b : Bytes), p.raw.length + a.length ≤ n → INV p → GoodRun p a →
    feed p (a ++ b) = seq2 (feed p a) (fun p1 => feed p1 b) := by
  intro n p a b hn hinv hg
  clear hn
  induction hg with
  | nil p => simp [feed_nil, seq2]
  | err p a e hgat hn =>
    rw [feed_step p (a ++ b) hinv, feed_step p a hinv, ← app_app, ← norm_app _ b hgat, hn]; rfl
  | wait p p' a hgat hn hc =>
    rw [feed_step p (a ++ b) hinv, feed_step p a hinv, ← app_app, ← norm_app _ b hgat, hn, Except.ok_bind,
      ← feed_step p' b (INV_of_wait p p' a hinv hgat hn hc)]
    simp only [hc, Bool.false_eq_true, if_false, seq2, List.nil_append]
  | msg p p' a hgat hn hc _ ih =>
    -- the rest of `a` and all of `b` go to a fresh parser
    rw [feed_step p (a ++ b) hinv, feed_step p a hinv, norm'_app_of_complete b hgat hn hc hinv.wf, hn]
    simp only [app_core, app_raw, hc, if_true, ih INV_fresh]
    rcases feed {} p'.raw with ⟨o2, _ | q⟩ <;> simp [seq2]

theorem seq2_assoc (r : List Msg × Except Err P) (k1 k2 : P → List Msg × Except Err P) :
    seq2 (seq2 r k1) k2 = seq2 r (fun p => seq2 (k1 p) k2) := by
  obtain ⟨o, _ | p⟩ := r
  · rfl
  · simp only [seq2]
    rcases k1 p with ⟨o1, _ | q⟩ <;> simp [List.append_assoc]

theorem feedAll_snoc : ∀ (cs : List Bytes) (p : P) (c : Bytes),
    feedAll p (cs ++ [c]) = seq2 (feedAll p cs) (fun p1 => feed p1 c) := by
  intro cs
  induction cs with
  | nil =>
    intro p c
    simp only [List.nil_append, feedAll, seq2, List.nil_append]
    rcases feed p c with ⟨o, _ | q⟩ <;> simp
  | cons c0 cs ih =>
    intro p c
    simp only [List.cons_append, feedAll]
    rw [seq2_assoc]
    congr 1
    funext p1
    exact ih p1 c

end HapVerif.Http
