import HapVerif.Model.PairSetup
import HapVerif.Spec.SetupAccessory
import HapVerif.Proofs.ExceptDo
import HapVerif.Proofs.Tlv

/-! What it takes for each step of part 2 of the pair-setup model to succeed. -/

namespace HapVerif.PairSetup
open HapVerif HapVerif.Tlv HapVerif.Protocol

theorem processM4_ok_iff (s : SrpView) (m4 : Items) :
    processM4 s m4 = .ok () ↔ handleStateStep m4 [4] = .ok () ∧ ∃ proof, lookup 4 m4 = some proof ∧ s.accepts proof = true := by
  unfold processM4 lift
  constructor
  · cases h0 : handleStateStep m4 [4] with
    | error e => nofun
    | ok u =>
    cases hp : lookup 4 m4 with
    | none => nofun
    | some proof => exact of_ite_eq nofun fun hacc _ => ⟨rfl, proof, rfl, by simpa using hacc⟩
  · rintro ⟨h0, proof, hp, hacc⟩
    simp only [h0, hp, hacc, Bool.not_true, Bool.false_eq_true]
    rfl

/-- the checks `perform_pair_setup_part2` makes on M6, in source order; `enc`, `plain`, `d`, `sig` are the sealed box, its
    plaintext, the items in it and the signature among them -/
structure M6Ok (C : Crypto) (K iosId ltsk : Bytes) (m6 : Items) (r : Record) (enc plain : Bytes) (d : Items) (sig : Bytes) :
    Prop where
  state : handleStateStep m6 [6] = .ok ()
  box : lookup 5 m6 = some enc
  opened : C.aeadOpen (encKey C K) (noncePad ++ str "PS-Msg06") [] enc = some plain
  decoded : decode none plain = .ok d
  signature : lookup 10 d = some sig
  ident : lookup 1 d = some r.accessoryId
  ltpk : lookup 3 d = some r.accessoryLTPK
  ltpkLen : r.accessoryLTPK.length = 32
  verified : C.edVerify r.accessoryLTPK (accX C K ++ r.accessoryId ++ r.accessoryLTPK) sig = true
  ascii : asciiOnly r.accessoryId = true
  iosId : r.iosId = iosId
  iosLTSK : r.iosLTSK = ltsk
  iosLTPK : r.iosLTPK = C.edPub ltsk

theorem processM6_ok_iff (C : Crypto) (K iosId ltsk : Bytes) (m6 : Items) (r : Record) :
    processM6 C K iosId ltsk m6 = .ok r ↔ ∃ enc plain d sig, M6Ok C K iosId ltsk m6 r enc plain d sig := by
  dsimp only [processM6, lift, Except.error_bind, Except.ok_bind, pure, Except.pure]
  constructor
  · cases h0 : handleStateStep m6 [6] with
    | error e => nofun
    | ok u =>
    cases henc : lookup 5 m6 with
    | none => nofun
    | some enc =>
    dsimp only
    cases hopen : C.aeadOpen (encKey C K) (noncePad ++ str "PS-Msg06") [] enc with
    | none => nofun
    | some plain =>
    dsimp only
    cases hd : decode none plain with
    | error e => nofun
    | ok d =>
    dsimp only
    cases hsig : lookup 10 d with
    | none => nofun
    | some sig =>
    cases hid : lookup 1 d with
    | none => nofun
    | some ident =>
    cases hpk : lookup 3 d with
    | none => nofun
    | some ltpk =>
    refine of_ite_eq nofun fun hlen => of_ite_eq nofun fun hver => of_ite_eq nofun fun hasc hr => ?_
    cases hr
    exact ⟨enc, plain, d, sig,
      { state := h0, box := henc, opened := hopen, decoded := hd, signature := hsig, ident := hid, ltpk := hpk,
        ltpkLen := Decidable.of_not_not hlen, verified := by simpa using hver, ascii := by simpa using hasc, iosId := rfl,
        iosLTSK := rfl, iosLTPK := rfl }⟩
  · rintro ⟨enc, plain, d, sig, h⟩
    simp only [h.state, h.box, h.opened, h.decoded, h.signature, h.ident, h.ltpk, h.ltpkLen, h.verified, h.ascii, ne_eq,
      Bool.not_true]
    show Except.ok ⟨r.accessoryId, r.accessoryLTPK, iosId, ltsk, C.edPub ltsk⟩ = Except.ok r
    rw [← h.iosLTPK, ← h.iosLTSK, ← h.iosId]

theorem part2_ok_iff (C : Crypto) (s : SrpView) (iosId ltsk : Bytes) (m4 m6 : Items) (r : Record) :
    part2 C s iosId ltsk m4 m6 = .ok r ↔ processM4 s m4 = .ok () ∧ processM6 C s.K iosId ltsk m6 = .ok r := by
  unfold part2
  cases processM4 s m4 with
  | error e => exact ⟨nofun, nofun⟩
  | ok u => exact ⟨fun h => ⟨rfl, h⟩, fun h => h.2⟩

theorem decode_idKeySig (a b c : Bytes) : decode none (encodeList [(1, a), (3, b), (10, c)]) = .ok [(1, a), (3, b), (10, c)] :=
  decode_encodeList _ (by simp [WF])

theorem specNoncePad_eq : Spec.SetupAccessory.noncePad = noncePad := rfl

theorem sessionKey_eq_encKey (C : Crypto) (K : Bytes) : Spec.SetupAccessory.sessionKey C K = encKey C K := rfl

theorem iosDeviceX_eq_iosX (C : Crypto) (K : Bytes) : Spec.SetupAccessory.iosDeviceX C K = iosX C K := rfl

end HapVerif.PairSetup
