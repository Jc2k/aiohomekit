import HapVerif.Proofs.ReconnectOps

/-! # The reconnect loop cannot spin: at one instant its body runs at most once per advertised address -/

namespace HapVerif.Reconnect

/-- the excluded addresses are distinct advertised ones, hence fewer than them: the loop's measure -/
structure Excl (failed hosts : List Host) : Prop where
  sub : ∀ h ∈ failed, h ∈ hosts
  nd : failed.Nodup

theorem insertHost_nodup (h : Host) (l : List Host) (hn : l.Nodup) : (insertHost h l).Nodup := by
  unfold insertHost
  split
  · exact hn
  · rename_i hm
    exact List.nodup_append.mpr ⟨hn, by simp, fun a ha b hb => by simp at hb; subst hb; rintro rfl; exact hm ha⟩

theorem mem_insertHost (h x : Host) (l : List Host) : x ∈ insertHost h l ↔ x ∈ l ∨ x = h := by
  unfold insertHost
  split
  · exact ⟨Or.inl, fun hx => hx.elim id (· ▸ ‹_›)⟩
  · simp

theorem Excl.keep {failed hosts f : List Host} (h : Excl failed hosts) (hf : f = [] ∨ f = failed) :
    Excl f hosts ∧ f.length ≤ failed.length := by
  rcases hf with rfl | rfl
  · exact ⟨⟨nofun, .nil⟩, Nat.zero_le _⟩
  · exact ⟨h, Nat.le_refl _⟩

theorem backoff_excl {s : St} (h : Excl s.failed s.hosts) : Excl (backoff s).failed s.hosts := by
  refine (h.keep ?_).1
  rw [backoff_eq]
  split
  · exact .inl rfl
  · exact .inr rfl

theorem exclude_excl {s : St} (h : Excl s.failed s.hosts) (hcur : ∀ x, s.curHost = some x → x ∈ s.hosts) :
    Excl (match s.curHost with
      | some h => insertHost h s.failed
      | none => s.failed) s.hosts := by
  refine ⟨fun x hx => ?_, ?_⟩ <;> cases hc : s.curHost <;> simp only [hc] at *
  · exact h.sub x hx
  · exact ((mem_insertHost _ x _).mp hx).elim (h.sub x) (· ▸ hcur _ rfl)
  · exact h.nd
  · exact insertHost_nodup _ _ h.nd

theorem wrongIdState_excl {s : St} (h : Excl s.failed s.hosts) (hcur : ∀ x, s.curHost = some x → x ∈ s.hosts) :
    Excl (wrongIdState s).failed (wrongIdState s).hosts := by
  rw [wrongIdState, dropTransport_eq]
  exact exclude_excl h hcur

/-- against the top of this iteration; lists, not states: updates of other fields are invisible -/
structure Again (hs : List Host) (ds : Option (List Host)) (n : Nat) (s' : St) : Prop extends Excl s'.failed s'.hosts where
  hosts : s'.hosts = hs
  desc : s'.desc = ds
  grew : n < s'.failed.length
  room : s'.failed.length < hs.length

/-- of what a piece of the loop returns: `A` if it says `continue`, else `B` -/
def Exit (A B : St → Prop) (r : St × Bool) : Prop := cond r.2 (A r.1) (B r.1)

theorem Exit.again {A B : St → Prop} {r : St × Bool} (h : Exit A B r) (hr : r.2 = true) : A r.1 := by
  unfold Exit at h
  rwa [hr] at h

theorem Exit.done {A B : St → Prop} {r : St × Bool} (h : Exit A B r) (hr : r.2 = false) : B r.1 := by
  unfold Exit at h
  rwa [hr] at h

/-- an attempt started in `s` ends in an immediate retry, or stopped or waiting -/
def Out (s : St) : St × Bool → Prop := Exit (Again s.hosts s.desc s.count0) (·.conn ≠ .stuck)

theorem verdict_out {s : St} (h : Excl s.failed s.hosts) (hcur : ∀ x, s.curHost = some x → x ∈ s.hosts) (v : Ver) :
    Out s (verifyVerdict s v) := by
  cases v with
  | ok | auth | fail => nofun
  | hang =>
    simp only [verifyVerdict]
    split <;> nofun
  | okLost =>
    simp only [verifyVerdict]
    split
    · nofun
    · split <;> nofun
  | wrongId =>
    have hw := wrongIdState_excl h hcur
    have e : (wrongIdState s).hosts = s.hosts ∧ (wrongIdState s).desc = s.desc ∧
        (wrongIdState s).count0 = s.count0 := by
      rw [wrongIdState, dropTransport_eq]
      exact ⟨rfl, rfl, rfl⟩
    rw [verifyVerdict_wrongId]
    split
    · obtain ⟨hlt, x, hx, hxn⟩ := retry_iff.mp ‹_›
      refine ⟨hw, e.1, e.2.1, e.2.2 ▸ hlt, e.1 ▸ ?_⟩
      -- a duplicate-free sub-list of the hosts that misses one of them is strictly shorter
      exact List.Nodup.length_le_of_subset (List.nodup_cons.mpr ⟨hxn, hw.nd⟩) (List.cons_subset.mpr ⟨hx, hw.sub⟩)
    · nofun

theorem getD_mem (a : Host) (as : List Host) (k : Nat) : (a :: as).getD (min k as.length) a ∈ a :: as := by
  have hlt : min k as.length < (a :: as).length := Nat.lt_succ_of_le (Nat.min_le_right _ _)
  rw [List.getD_eq_getElem?_getD, List.getElem?_eq_getElem hlt]
  exact List.getElem_mem hlt

theorem opened_curHost {s : St} {a : Host} (ha : a ∈ s.hosts) : ∀ x, (opened s a).curHost = some x → x ∈ (opened s a).hosts :=
  fun _ hx => Option.some.inj hx ▸ ha

theorem tcpPhase_out (as : List Host) {s : St} (h : Excl s.failed s.hosts) (has : ∀ x ∈ as, x ∈ s.hosts) : Out s (tcpPhase as s) := by
  induction as generalizing s with
  | nil => nofun
  | cons a as ih =>
    rw [tcpPhase_cons]
    split
    · exact ih h fun x hx => has x (List.mem_cons_of_mem _ hx)
    · nofun
    · exact verdict_out (s := opened (dialled s (a :: as)) _) h (opened_curHost (has _ (getD_mem a as _))) _

/-- `len` / `same`: only the first iteration may swap `hosts` for the described addresses -/
structure Prepared (s s1 : St) (targets : List Host) : Prop where
  frame : s1 = { s with count0 := s.failed.length, secure := false, hosts := s1.hosts, failed := s1.failed }
  excl : Excl s1.failed s1.hosts
  count0 : s1.count0 = s.failed.length
  cnt : s1.failed.length ≤ s.failed.length
  stable : Stable s1
  targets : ∀ x ∈ targets, x ∈ s1.hosts
  len : s1.hosts.length ≤ s.hosts.length + (s.desc.getD []).length
  same : Stable s → s1.hosts = s.hosts

theorem prepared {s : St} (h : Excl s.failed s.hosts) : Prepared s (prepare s).1 (prepare s).2 := by
  rcases prepare_cases s with ⟨hst, e⟩ | ⟨hst, e⟩
  · rw [e]
    have hk := h.keep (connectHosts_snd { s with count0 := s.failed.length, secure := false })
    exact ⟨rfl, hk.1, rfl, hk.2, hst, connectHosts_fst _, Nat.le_add_right _ _, fun _ => rfl⟩
  · rw [e]
    have hk := Excl.keep (failed := []) (hosts := s.desc.getD []) ⟨nofun, .nil⟩
      (connectHosts_snd { s with count0 := s.failed.length, secure := false, hosts := s.desc.getD [], failed := [] })
    refine ⟨rfl, hk.1, rfl, Nat.le_trans hk.2 (Nat.zero_le _), ?_, connectHosts_fst _, Nat.le_add_left _ _, (absurd · hst)⟩
    unfold Stable prepareTail
    cases s.desc with
    | none => trivial
    | some hs => exact sameSet_refl hs

/-- `fuelFor` suffices even if the first iteration replaces the address list -/
theorem loopTop_fuel (fuel : Nat) {s : St} (h : Excl s.failed s.hosts)
    (hf : Stable s ∧ s.hosts.length < fuel + s.failed.length ∨ fuelFor s ≤ fuel) : (loopTop fuel s).conn ≠ .stuck := by
  unfold fuelFor at hf
  induction fuel generalizing s with
  | zero =>
    -- exclusions never outnumber addresses, and `fuelFor` is at least 2
    have := List.Nodup.length_le_of_subset h.nd h.sub
    omega
  | succ n ih =>
    rw [loopTop_succ]
    split
    · nofun
    · have p := prepared h
      have ht := tcpPhase_out (prepare s).2 p.excl p.targets
      split
      · have a := ht.again ‹_›
        -- next iteration: same addresses and `desc`, more exclusions
        refine ih a.toExcl (.inl ⟨?_, ?_⟩)
        · have := p.stable
          unfold Stable at this ⊢
          rwa [a.desc, a.hosts]
        · -- the measure is `hosts.length - failed.length`; swapping in `desc` costs at most `desc.length`
          have hmeasure : (prepare s).1.hosts.length <
              n + (tcpPhase (prepare s).2 (prepare s).1).1.failed.length := by
            have hlt := a.grew
            rw [p.count0] at hlt
            rcases hf with hf | hf
            · rw [p.same hf.1]
              omega
            · have := p.len
              omega
          rwa [a.hosts]
      · exact ht.done (Bool.eq_false_iff.mpr ‹_›)

end HapVerif.Reconnect
