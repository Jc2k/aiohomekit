import HapVerif.Model.Reconnect

/-! # The supervisor's operations as record updates `op s = { s with … }`: after one `rw`, an untouched field is `rfl` -/

namespace HapVerif.Reconnect

theorem popTcp_eq (s : St) : popTcp s = (s.tcp.headD (.ok 0), { s with tcp := s.tcp.tail }) := by
  obtain ⟨⟩ := s
  unfold popTcp
  split <;> simp_all

theorem popVer_eq (s : St) : popVer s = (s.ver.headD .ok, { s with ver := s.ver.tail }) := by
  obtain ⟨⟩ := s
  unfold popVer
  split <;> simp_all

/-- what waiting callers are told when the connector ends in `c` -/
def answer (s : St) : Conn → WOut
  | .doneOk => if s.isConnected then .ok else .disconnected
  | .doneAuth => .auth
  | _ => .disconnected

theorem finish_eq (s : St) (c : Conn) : finish s c =
    { s with conn := c, liveTasks := s.liveTasks - 1, waiters := [],
             obs := s.obs ++ s.waiters.map fun w => Obs.waiter w.id (answer s c) s.now } := by
  cases c <;> rfl

theorem backoff_eq (s : St) : backoff s =
    { s with failed := if !s.failed.isEmpty && s.failed.length ≤ s.count0 then [] else s.failed,
             interval := nextInterval s.interval, conn := .sleeping (s.now + nextInterval s.interval),
             obs := s.obs ++ [.sleep s.now (nextInterval s.interval)] } := rfl

/-- what `_drop_transport` logs -/
def dropLog (s : St) : List Obs :=
  match s.current with
  | some c => if s.open_.contains c then [.closedByCtl c s.now] else []
  | none => []

theorem dropLog_closed (s : St) : ∀ o ∈ dropLog s, ∃ c t, o = Obs.closedByCtl c t := by
  unfold dropLog
  split
  · split
    · exact fun o ho => ⟨_, _, List.mem_singleton.mp ho⟩
    · nofun
  · nofun

theorem dropTransport_eq (s : St) : dropTransport s =
    { s with current := none, open_ := s.open_.filter (some · ≠ s.current), obs := s.obs ++ dropLog s } := by
  unfold dropTransport dropLog
  cases hc : s.current with
  | none =>
    rw [List.filter_eq_self.mpr (by simp)]
    obtain ⟨⟩ := s
    simp_all
  | some c =>
    simp only
    split <;> simp [emit]

theorem dropTransport_open (s : St) (h : s.open_ = s.current.toList) : (dropTransport s).open_ = [] := by
  rw [dropTransport_eq, h]
  cases s.current <;> simp

theorem sameSet_refl (hs : List Host) : (hs.all (hs.contains ·) && hs.all (hs.contains ·)) = true := by
  simp

/-- `refreshHosts` is the identity on this state (the description carries the addresses already in use) -/
def Stable (s : St) : Prop :=
  match s.desc with
  | some hs => (hs.all (s.hosts.contains ·) && s.hosts.all (hs.contains ·)) = true
  | none => True

theorem refreshHosts_cases (s : St) : Stable s ∧ refreshHosts s = s ∨
    ¬Stable s ∧ refreshHosts s = { s with hosts := s.desc.getD [], failed := [] } := by
  unfold refreshHosts Stable
  cases s.desc with
  | none => exact .inl ⟨trivial, rfl⟩
  | some hs =>
    dsimp only
    split
    · exact .inl ⟨‹_›, rfl⟩
    · exact .inr ⟨‹_›, rfl⟩

theorem connectHosts_fst (s : St) : ∀ x ∈ (connectHosts s).1, x ∈ s.hosts := by
  unfold connectHosts
  simp only
  split
  · exact fun x hx => hx
  · exact fun x hx => (List.mem_filter.mp hx).1

theorem connectHosts_snd (s : St) : (connectHosts s).2 = [] ∨ (connectHosts s).2 = s.failed := by
  unfold connectHosts
  simp only
  split
  · exact .inl rfl
  · exact .inr rfl

theorem connectHosts_all {s : St} (h : s.failed = [] ∨ ∀ x ∈ s.hosts, x ∈ s.failed) :
    (connectHosts s).1 = s.hosts := by
  unfold connectHosts
  simp only
  split
  · rfl
  · rename_i hne
    rcases h with h | h
    · exact List.filter_eq_self.mpr fun x _ => by simp [h]
    · exact absurd (List.isEmpty_iff.mpr (List.filter_eq_nil_iff.mpr fun x hx => by simp [h x hx])) hne

/-- `prepare` after `refreshHosts` -/
def prepareTail (r : St) : St × List Host := ({ r with failed := (connectHosts r).2 }, (connectHosts r).1)

theorem prepare_cases (s : St) :
    Stable s ∧ prepare s = prepareTail { s with count0 := s.failed.length, secure := false } ∨ ¬Stable s ∧
      prepare s = prepareTail { s with count0 := s.failed.length, secure := false, hosts := s.desc.getD [], failed := [] } :=
  (refreshHosts_cases { s with count0 := s.failed.length, secure := false }).imp (.imp id (congrArg prepareTail))
    (.imp id (congrArg prepareTail))

theorem prepare_targets_all (s : St) (h : s.failed = [] ∨ ∀ x ∈ s.hosts, x ∈ s.failed) :
    (prepare s).2 = (prepare s).1.hosts := by
  rcases prepare_cases s with ⟨-, e⟩ | ⟨-, e⟩
  · rw [e]
    exact connectHosts_all (s := { s with count0 := s.failed.length, secure := false }) h
  · rw [e]
    exact connectHosts_all (.inl rfl)

/-- after one `start_connection` call was logged and its scripted result taken -/
def dialled (s : St) (targets : List Host) : St :=
  { s with obs := s.obs ++ [.attempt s.now targets], tcp := s.tcp.tail }

/-- after the connect to `h` succeeded and the scripted pair-verify result was taken -/
def opened (s : St) (h : Host) : St :=
  { s with nextId := s.nextId + 1, current := some s.nextId, curHost := some h, open_ := s.open_ ++ [s.nextId],
           obs := s.obs ++ [.opened s.nextId h s.now], ver := s.ver.tail }

theorem tcpPhase_cons (a : Host) (as : List Host) (s : St) :
    tcpPhase (a :: as) s =
      match s.tcp.headD (.ok 0) with
      | .refused => tcpPhase as (dialled s (a :: as))
      | .timeout => ({ dialled s (a :: as) with conn := .tcpWait (s.now + consts.connectTimeout) as }, false)
      | .ok pick =>
        verifyVerdict (opened (dialled s (a :: as)) ((a :: as).getD (min pick as.length) a)) (s.ver.headD .ok) := by
  rw [tcpPhase, popTcp_eq]
  show (match s.tcp.headD (.ok 0) with | .refused => _ | .timeout => _ | .ok pick => _) = _
  split
  · rfl
  · rfl
  · simp only [popVer_eq]
    rfl

theorem verifyVerdict_hang {s : St} {c : ConnId} (h : s.current = some c) :
    verifyVerdict s .hang = ({ s with conn := .verifyWait (s.now + consts.requestTimeout) c }, false) := by
  simp only [verifyVerdict, h]

theorem verifyVerdict_okLost {s : St} {c : ConnId} (h : s.current = some c) :
    verifyVerdict s .okLost =
      if !s.resub then (finish { s with secure := true } .doneOk, false)
      else (backoff { s with secure := true, current := none, open_ := s.open_.filter (· ≠ c), resub := false },
            false) := by
  simp only [verifyVerdict, h]

theorem verifyVerdict_wrongId (s : St) :
    verifyVerdict s .wrongId =
      if (wrongIdState s).failed.length > (wrongIdState s).count0 &&
          (wrongIdState s).hosts.any (fun h => !((wrongIdState s).failed.contains h))
      then (wrongIdState s, true) else (backoff (wrongIdState s), false) := rfl

theorem retry_iff {hosts failed : List Host} {n : Nat} :
    (decide (failed.length > n) && hosts.any fun x => !(failed.contains x)) = true ↔
      n < failed.length ∧ ∃ x ∈ hosts, x ∉ failed := by
  simp

theorem loopTop_succ (fuel : Nat) (s : St) :
    loopTop (fuel + 1) s =
      if s.closing then finish s .finished
      else if (tcpPhase (prepare s).2 (prepare s).1).2 then loopTop fuel (tcpPhase (prepare s).2 (prepare s).1).1
      else (tcpPhase (prepare s).2 (prepare s).1).1 := rfl

theorem stopConnector_flags (s : St) :
    (stopConnector s).closing = s.closing ∧ (stopConnector s).shutdown = s.shutdown := by
  unfold stopConnector
  split
  · exact ⟨rfl, rfl⟩
  · exact ⟨rfl, rfl⟩
  · rw [dropTransport_eq]
    exact ⟨rfl, rfl⟩
  · exact ⟨rfl, rfl⟩

theorem stopConnector_cases (s : St) :
    s.conn.live = false ∧ stopConnector s = s ∨ s.conn.live = true ∧
      (stopConnector s = finish s .cancelled ∨ stopConnector s = finish (dropTransport s) .cancelled) := by
  cases hc : s.conn <;> simp [stopConnector, Conn.live, hc]

theorem stopConnector_idle (s : St) (h : s.conn.live = false) : stopConnector s = s :=
  (stopConnector_cases s).elim (·.2) fun x => nomatch h.symm.trans x.1

theorem closeConn_eq (s : St) : closeConn s =
    { dropTransport (stopConnector { s with closing := true }) with
      secure := false
      closedF := (dropTransport (stopConnector { s with closing := true })).closedF || s.current.isSome } := rfl

theorem closeConn_closing (s : St) : (closeConn s).closing = true := by
  rw [closeConn_eq, dropTransport_eq]
  exact (stopConnector_flags _).1

theorem closeConn_shutdown (s : St) : (closeConn s).shutdown = s.shutdown := by
  rw [closeConn_eq, dropTransport_eq]
  exact (stopConnector_flags _).2

theorem startReconnecting_fst (s : St) : (startReconnecting s).1 =
    if s.isConnected then s else startConnector { s with closing := false, closedF := false } := by
  unfold startReconnecting
  split <;> rfl

theorem step_drop (s : St) (c : ConnId) (h : s.open_ = s.current.toList) : step s (.drop c) =
    if s.current = some c then
      match s.conn with
      | .verifyWait _ _ => backoff { s with open_ := [], current := none }
      | _ => if s.closing then { s with open_ := [], current := none, closedF := true }
             else startConnector { s with open_ := [], current := none }
    else s := by
  rw [step, h]
  cases s.current with
  | none => rfl
  | some c' =>
    by_cases hc : c' = c
    · subst hc
      simp
      rfl
    · simp [hc, Ne.symm hc]

theorem Waiter.due_le_deadline (w : Waiter) : w.due ≤ w.deadline := by
  unfold Waiter.due; split
  · exact Nat.min_le_right _ _
  · exact Nat.le_refl _

theorem advanceTo_ind {P : St → Prop} (fire : ∀ s t, P s → P (fireWaiters s t))
    (timer : ∀ s, P s → P (connectorTimer s)) (fuel : Nat) (target : Time) {s : St} (h : P s) :
    P (advanceTo fuel target s) := by
  induction fuel generalizing s with
  | zero => exact fire s target h
  | succ n ih =>
    simp only [advanceTo]
    split
    · split
      · exact ih (timer _ (fire s _ h))
      · exact fire s target h
    · exact fire s target h

theorem advanceTo_fires (fuel : Nat) (target : Time) (s : St) :
    ∀ w ∈ (advanceTo fuel target s).waiters, target < w.due := by
  have last (s' : St) : ∀ w ∈ (fireWaiters s' target).waiters, target < w.due := fun w hw =>
    Nat.lt_of_not_le (by simpa [fireWaiters] using (List.mem_filter.mp hw).2)
  induction fuel generalizing s with
  | zero => exact last s
  | succ n ih =>
    simp only [advanceTo]
    split
    · split
      · exact ih _
      · exact last s
    · exact last s

theorem advanceTo_idle (fuel : Nat) (target : Time) (s : St) (h : s.conn.live = false) :
    advanceTo fuel target s = fireWaiters s target := by
  have : s.conn.timer = none := by cases hc : s.conn <;> simp_all [Conn.live, Conn.timer]
  cases fuel <;> simp [advanceTo, this]

end HapVerif.Reconnect
