import HapVerif.Model.PairVerify
import HapVerif.Spec.VerifyAccessory
import HapVerif.Proofs.ExceptDo
import HapVerif.Proofs.Tlv

/-! What it takes for each step of the pair-verify model to succeed; the steps against the accessory of the specification. -/

namespace HapVerif.PairVerify
open HapVerif HapVerif.Tlv HapVerif.Protocol

abbrev boxKey (C : Crypto) (shared : Bytes) : Bytes :=
  C.hkdf shared (str "Pair-Verify-Encrypt-Salt") (str "Pair-Verify-Encrypt-Info") 32

abbrev m3Of (C : Crypto) (p : Pairing) (eph accPk : Bytes) : Items :=
  [(6, [3]), (5, C.aeadSeal (boxKey C (C.dh eph accPk)) (noncePad ++ str "PV-Msg03") []
    (encodeList [(1, p.iosId), (10, C.edSign p.iosLTSK (C.dhPub eph ++ p.iosId ++ accPk))]))]

/-- the checks `get_session_keys` makes on M2, in source order; `enc`, `plain`, `d1` are the sealed box, its plaintext
    and the items in it -/
structure M2Ok (C : Crypto) (p : Pairing) (eph : Bytes) (m2 : Items) (v : Verified) (enc plain : Bytes) (d1 : Items) : Prop where
  state : handleStateStep m2 [2] = .ok ()
  pk : lookup 3 m2 = some v.accPk
  box : lookup 5 m2 = some enc
  pkLen : v.accPk.length = 32
  nonzero : (C.dh eph v.accPk).all (· = 0) = false
  opened : C.aeadOpen (boxKey C (C.dh eph v.accPk)) (noncePad ++ str "PV-Msg02") [] enc = some plain
  decoded : decode none plain = .ok d1
  ident : lookup 1 d1 = some p.accessoryId
  signature : lookup 10 d1 = some v.sig
  ascii : asciiOnly p.accessoryId = true
  ltpkLen : p.accessoryLTPK.length = 32
  verified : C.edVerify p.accessoryLTPK (v.accPk ++ p.accessoryId ++ C.dhPub eph) v.sig = true
  shared : v.shared = C.dh eph v.accPk
  m3 : v.m3 = m3Of C p eph v.accPk

theorem processM2_ok_iff (C : Crypto) (p : Pairing) (eph : Bytes) (m2 : Items) (v : Verified) :
    processM2 C p eph m2 = .ok v ↔ ∃ enc plain d1, M2Ok C p eph m2 v enc plain d1 := by
  dsimp only [processM2, Except.error_bind, Except.ok_bind, pure, Except.pure]
  constructor
  · cases h0 : handleStateStep m2 [2] with
    | error e => nofun
    | ok u =>
    cases hpk : lookup 3 m2 with
    | none => nofun
    | some accPk =>
    cases henc : lookup 5 m2 with
    | none => nofun
    | some enc =>
    refine of_ite_eq nofun fun hlen => of_ite_eq nofun fun hz => ?_
    cases hopen : C.aeadOpen (boxKey C (C.dh eph accPk)) (noncePad ++ str "PV-Msg02") [] enc with
    | none => nofun
    | some plain =>
    dsimp only
    cases hd1 : decode none plain with
    | error e => nofun
    | ok d1 =>
    dsimp only
    cases hid : lookup 1 d1 with
    | none => nofun
    | some ident =>
    cases hsig : lookup 10 d1 with
    | none => nofun
    | some sig =>
    refine of_ite_eq nofun fun hasc => of_ite_eq nofun fun hident => of_ite_eq nofun fun hl => of_ite_eq nofun fun hver hv => ?_
    cases hv
    cases Decidable.of_not_not hident
    exact ⟨enc, plain, d1,
      { state := h0, pk := hpk, box := henc, pkLen := Decidable.of_not_not hlen, nonzero := eq_false_of_ne_true hz, opened := hopen,
        decoded := hd1, ident := hid, signature := hsig, ascii := by simpa using hasc, ltpkLen := Decidable.of_not_not hl,
        verified := by simpa using hver, shared := rfl, m3 := rfl }⟩
  · rintro ⟨enc, plain, d1, h⟩
    simp only [h.state, h.pk, h.box, h.pkLen, h.nonzero, h.opened, h.decoded, h.ident, h.signature, h.ascii, h.ltpkLen, h.verified,
      ne_eq]
    show Except.ok ⟨m3Of C p eph v.accPk, C.dh eph v.accPk, v.accPk, v.sig⟩ = Except.ok v
    rw [← h.m3, ← h.shared]

theorem run_ok_iff (C : Crypto) (p : Pairing) (eph : Bytes) (m2 m4 : Items) (r : Items × Keys) :
    run C p eph m2 m4 = .ok r ↔ ∃ v, processM2 C p eph m2 = .ok v ∧ processM4 m4 = .ok () ∧ r = (v.m3, keysOf C v.shared) := by
  unfold run
  cases processM2 C p eph m2 with
  | error e => exact ⟨nofun, nofun⟩
  | ok v =>
    cases processM4 m4 with
    | error e => exact ⟨nofun, nofun⟩
    | ok u => exact ⟨fun h => ⟨v, rfl, rfl, (Except.ok.inj h).symm⟩, fun ⟨_, hv, _, hr⟩ => hr ▸ Except.ok.inj hv ▸ rfl⟩

/-- the checks of `resume_m3`, in source order -/
structure ResumeOk (C : Crypto) (prevShared eph : Bytes) (m2 : Items) (sid shared' method tag : Bytes) : Prop where
  hasMethod : lookup 0 m2 = some method
  methodNe : method ≠ []
  methodIs : leToNat method = 6
  hasSession : lookup 14 m2 = some sid
  sessionNe : sid ≠ []
  hasTag : lookup 5 m2 = some tag
  tagNe : tag ≠ []
  opened : C.aeadOpen (C.hkdf prevShared (C.dhPub eph ++ sid) (str "Pair-Resume-Response-Info") 32)
    (noncePad ++ str "PR-Msg02") [] tag = some []
  shared : shared' = C.hkdf prevShared (C.dhPub eph ++ sid) (str "Pair-Resume-Shared-Secret-Info") 32

theorem resumeM3_eq_some_iff (C : Crypto) (prevShared eph : Bytes) (m2 : Items) (sid shared' : Bytes) :
    resumeM3 C prevShared eph m2 = some (sid, shared') ↔ ∃ method tag, ResumeOk C prevShared eph m2 sid shared' method tag := by
  unfold resumeM3
  constructor
  · cases hm : lookup 0 m2 with
    | none => nofun
    | some method =>
    dsimp only
    refine of_ite_eq nofun fun hm0 => of_ite_eq nofun fun hm6 => ?_
    cases hsid : lookup 14 m2 with
    | none => nofun
    | some sid' =>
    refine of_ite_eq nofun fun hs0 => ?_
    cases htag : lookup 5 m2 with
    | none => nofun
    | some tag =>
    refine of_ite_eq nofun fun ht0 => ?_
    cases hopen : C.aeadOpen (C.hkdf prevShared (C.dhPub eph ++ sid') (str "Pair-Resume-Response-Info") 32)
        (noncePad ++ str "PR-Msg02") [] tag with
    | none => nofun
    | some plain =>
    refine of_ite_eq nofun fun hp h => ?_
    cases h
    exact ⟨method, tag,
      { hasMethod := hm, methodNe := hm0, methodIs := Decidable.of_not_not hm6, hasSession := hsid, sessionNe := hs0,
        hasTag := htag, tagNe := ht0, opened := Decidable.of_not_not hp ▸ hopen, shared := rfl }⟩
  · rintro ⟨method, tag, h⟩
    cases h.shared
    simp only [h.hasMethod, h.methodNe, h.methodIs, h.hasSession, h.sessionNe, h.hasTag, h.tagNe, h.opened, ne_eq,
      not_true_eq_false, if_false]

theorem verifyM2Resume_ok_iff (C : Crypto) (prevShared eph : Bytes) (m2 : Items) (o : Option (Bytes × Bytes)) :
    verifyM2Resume C prevShared eph m2 = .ok o ↔ handleStateStep m2 [2] = .ok () ∧ resumeM3 C prevShared eph m2 = o := by
  unfold verifyM2Resume
  cases handleStateStep m2 [2] with
  | error e => exact ⟨nofun, nofun⟩
  | ok u => exact ⟨fun h => ⟨rfl, Except.ok.inj h⟩, fun h => congrArg Except.ok h.2⟩

open Spec.VerifyAccessory

theorem specNoncePad_eq : Spec.VerifyAccessory.noncePad = noncePad := rfl

theorem boxKey_eq_vkey {C : Crypto} (L : C.Laws) (eph accSk : Bytes) :
    boxKey C (C.dh eph (C.dhPub accSk)) = vkey C accSk (C.dhPub eph) :=
  congrArg (boxKey C) (L.dh_comm eph accSk)

theorem decode_idSig (a b : Bytes) : decode none (encodeList [(1, a), (10, b)]) = .ok [(1, a), (10, b)] :=
  decode_encodeList _ (by simp [WF])

theorem processM2_specM2 {C : Crypto} (L : C.Laws) {p : Pairing} {A : Acc} (eph accSk : Bytes) (hid : p.accessoryId = A.id)
    (hltpk : p.accessoryLTPK = C.edPub A.ltsk) (hasc : asciiOnly A.id = true)
    (hnz : (C.dh eph (C.dhPub accSk)).all (· = 0) = false) :
    processM2 C p eph (m2 C A accSk (C.dhPub eph)) = .ok ⟨m3Of C p eph (C.dhPub accSk), C.dh eph (C.dhPub accSk),
      C.dhPub accSk, C.edSign A.ltsk (C.dhPub accSk ++ A.id ++ C.dhPub eph)⟩ :=
  (processM2_ok_iff ..).mpr ⟨_, _, _,
    { state := rfl, pk := rfl, box := rfl, pkLen := L.pubLen _, nonzero := hnz
      opened := by
        rw [boxKey_eq_vkey L]
        exact L.open_seal ..
      decoded := decode_idSig ..
      ident := congrArg some hid.symm
      signature := rfl
      ascii := hid ▸ hasc
      ltpkLen := hltpk ▸ L.edPubLen _
      verified := hltpk ▸ hid ▸ L.verify_sign ..
      shared := rfl, m3 := rfl }⟩

theorem acceptsM3_m3Of {C : Crypto} (L : C.Laws) {p : Pairing} {A : Acc} (eph accSk : Bytes) (hid : A.iosId = p.iosId)
    (hltpk : A.iosLTPK = C.edPub p.iosLTSK) :
    acceptsM3 C A accSk (C.dhPub eph) (m3Of C p eph (C.dhPub accSk)) = true := by
  -- the lookups evaluate; what is left are the three laws
  simp [acceptsM3, lookup, ← boxKey_eq_vkey L, specNoncePad_eq, L.open_seal, decode_idSig, hid, hltpk, L.verify_sign]

/-- the stored key verifies, over the controller's transcript, the signature `A` made over its own (with `iosPk`) -/
theorem of_processM2_specM2 {C : Crypto} (L : C.Laws) {p : Pairing} {A : Acc} {eph accSk iosPk : Bytes} {v : Verified}
    (h : processM2 C p eph (m2 C A accSk iosPk) = .ok v) :
    A.id = p.accessoryId ∧
      C.edVerify p.accessoryLTPK (C.dhPub accSk ++ A.id ++ C.dhPub eph)
        (C.edSign A.ltsk (C.dhPub accSk ++ A.id ++ iosPk)) = true := by
  obtain ⟨enc, plain, d1, h⟩ := (processM2_ok_iff ..).mp h
  obtain ⟨m3, shared, accPk, sig⟩ := v
  cases h.pk
  cases h.box
  cases L.seal_inj _ _ _ _ _ _ _ _ (L.open_sound _ _ _ _ _ h.opened)
  cases decode_idSig .. ▸ h.decoded
  cases h.signature
  have hid : A.id = p.accessoryId := Option.some.inj h.ident
  exact ⟨hid, hid ▸ h.verified⟩

end HapVerif.PairVerify
