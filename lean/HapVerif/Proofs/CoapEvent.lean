import HapVerif.Model.CoapEvent
import HapVerif.Proofs.Bytes

/-! The record loop of the CoAP event path on what a conformant accessory writes (`encode`). -/

namespace HapVerif.CoapEvent
open HapVerif

theorem encRec_length (r : Rec) : (encRec r).length = 5 + r.body.length := by
  simp only [encRec, List.length_cons, List.length_append, natToLe_length]; omega

theorem loop_encRec (r : Rec) (hwf : WF r) (tail : Bytes) (fuel : Nat) :
    loop (fuel + 1) (encRec r ++ tail) =
      if tail.isEmpty then ([r], .ok) else (r :: (loop fuel tail).1, (loop fuel tail).2) := by
  have h5 : ¬ (encRec r ++ tail).length < 5 := by rw [List.length_append, encRec_length]; omega
  -- the five header bytes are cons cells up to unfolding `natToLe 2`, so `drop` and `le16` compute on them
  have hi : le16 ((encRec r ++ tail).drop 1) = r.iid := natToLe_val 2 r.iid hwf.1
  have hl : le16 ((encRec r ++ tail).drop 3) = r.body.length := natToLe_val 2 r.body.length hwf.2
  have hd : ∀ k, (encRec r ++ tail).drop (5 + k) = (r.body ++ tail).drop k := fun k => by rw [Nat.add_comm]; rfl
  rw [loop, if_neg h5]
  simp only [hi, hl, hd, hd 0, List.drop_zero, List.take_left, List.drop_left]

theorem encode_cons (r : Rec) (rs : List Rec) : encode (r :: rs) = encRec r ++ encode rs := rfl

theorem length_le_encode : ∀ rs : List Rec, rs.length ≤ (encode rs).length
  | [] => Nat.le_refl _
  | r :: rs => by
    rw [encode_cons, List.length_append, encRec_length, List.length_cons]
    exact Nat.le_trans (Nat.succ_le_succ (length_le_encode rs)) (by omega)

/-- `<`: the junk takes a round -/
theorem loop_encode (junk : Bytes) (hj : junk.length < 5) : ∀ (rs : List Rec) (fuel : Nat), rs ≠ [] → rs.length < fuel →
    (∀ r ∈ rs, WF r) → loop fuel (encode rs ++ junk) = (rs, if junk.isEmpty then .ok else .structError)
  | [r], fuel + 2, _, _, hwf => by
    rw [encode_cons, List.append_assoc, loop_encRec r (hwf r (List.mem_cons_self ..)), show encode [] ++ junk = junk from rfl,
      loop, if_pos hj]
    split <;> rfl
  | r :: r2 :: rest, fuel + 1, _, hf, hwf => by
    rw [encode_cons, List.append_assoc, loop_encRec r (hwf r (List.mem_cons_self ..)),
      if_neg (show ¬ (encode (r2 :: rest) ++ junk).isEmpty = true from Bool.false_ne_true),
      loop_encode junk hj (r2 :: rest) fuel (List.cons_ne_nil _ _) (Nat.lt_of_succ_lt_succ hf) (fun x hx => hwf x (List.mem_cons_of_mem _ hx))]

theorem parse_encode (junk : Bytes) (hj : junk.length < 5) (rs : List Rec) (hne : rs ≠ []) (hwf : ∀ r ∈ rs, WF r) :
    parse (encode rs ++ junk) = (rs, if junk.isEmpty then .ok else .structError) :=
  loop_encode junk hj rs _ hne
    (Nat.lt_succ_of_le (Nat.le_trans (length_le_encode rs) (List.length_append ▸ Nat.le_add_right ..))) hwf

end HapVerif.CoapEvent
