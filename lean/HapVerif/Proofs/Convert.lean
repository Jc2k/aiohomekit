import HapVerif.Model.Convert
import Mathlib.Data.Rat.Floor

/-! `to_integral_value` under ROUND_HALF_UP is Mathlib's `round` away from zero; the error of rounding to `p` significant
digits. -/

namespace HapVerif.Convert

theorem halfUp_eq_round (a : ℚ) :
    (if a - (a.floor : ℚ) ≥ 1 / 2 then a.floor + 1 else a.floor) = round a := by
  have h1 : ((a.floor : ℤ) : ℚ) ≤ a := Int.floor_le a
  have h2 : a < ((a.floor : ℤ) : ℚ) + 1 := Int.lt_floor_add_one a
  have half : (0 : ℚ) < 1 / 2 := by norm_num
  symm
  split_ifs with h
  · rw [round_eq_iff, Int.cast_add, Int.cast_one, add_sub_assoc, sub_half]
    exact ⟨le_sub_iff_add_le'.1 h, h2.trans (lt_add_of_pos_right _ half)⟩
  · rw [round_eq_iff]
    exact ⟨(sub_le_self _ half.le).trans h1, sub_lt_iff_lt_add'.1 (not_le.1 h)⟩

theorem roundHalfUpInt_eq (x : ℚ) : roundHalfUpInt x = if x < 0 then -round (-x) else round x := by
  unfold roundHalfUpInt
  simp only [halfUp_eq_round]
  split <;> rfl

theorem abs_roundHalfUpInt_sub_le (z : ℚ) : |((roundHalfUpInt z : ℤ) : ℚ) - z| ≤ 1 / 2 := by
  rw [roundHalfUpInt_eq]
  split
  · rw [Int.cast_neg, ← neg_add', abs_neg, ← sub_neg_eq_add, abs_sub_comm]
    exact abs_sub_round (-z)
  · rw [abs_sub_comm]
    exact abs_sub_round z

theorem abs_sub_grid (x k : ℚ) {step : ℚ} (hs : 0 < step) : |x - k * step| = |x / step - k| * step := by
  have : x - k * step = (x / step - k) * step := by
    rw [sub_mul, div_mul_cancel₀ _ hs.ne']
  rw [this, abs_mul, abs_of_pos hs]

theorem abs_roundHalfUpInt_mul_sub_le (q : ℚ) {sc : ℚ} (hpos : 0 < sc) :
    |(roundHalfUpInt (q / sc) : ℚ) * sc - q| ≤ sc / 2 := by
  rw [abs_sub_comm, abs_sub_grid q _ hpos, abs_sub_comm]
  exact (mul_le_mul_of_nonneg_right (abs_roundHalfUpInt_sub_le _) hpos.le).trans_eq (one_div_mul_eq_div 2 sc)

theorem roundHalfEvenInt_intCast (z : ℤ) : roundHalfEvenInt (z : ℚ) = z := by
  unfold roundHalfEvenInt
  have hf : (z : ℚ).floor = z := Rat.floor_intCast z
  simp only [hf, sub_self]
  norm_num

theorem round_mono {x y : ℚ} (h : x ≤ y) : round x ≤ round y := by
  rw [round_eq, round_eq]
  exact Int.floor_mono (add_le_add_left h _)

theorem stepRound_true (v off step : ℚ) :
    stepRound true v off step = off + (roundHalfUpInt ((v - off) / step) : ℚ) * step := rfl

theorem stepRound_round {v off step : ℚ} (hs : 0 < step) (hv : off ≤ v) :
    stepRound true v off step = off + (round ((v - off) / step) : ℚ) * step := by
  rw [stepRound_true, roundHalfUpInt_eq, if_neg (not_lt.2 (div_nonneg (sub_nonneg.2 hv) hs.le))]

theorem clamp_some (mn mx v : ℚ) : clamp (some mn) (some mx) v = min (max mn v) mx := by
  simp only [clamp, gt_iff_lt, ← not_le, ite_not, min_def, max_def]

theorem clamp_of_mem {mn mx v : ℚ} (h1 : mn ≤ v) (h2 : v ≤ mx) : clamp (some mn) (some mx) v = v := by
  rw [clamp_some, max_eq_right h1, min_eq_left h2]

theorem convert_true_of_mem {mn mx s v : ℚ} (hs : s ≠ 0) (h1 : mn ≤ v) (h2 : v ≤ mx) :
    convert true (some mn) (some mx) (some s) v = roundHalfEvenInt (stepRound true v mn s) := by
  unfold convert
  simp only [clamp_of_mem h1 h2, hs, if_false, Option.getD_some, if_true]

theorem ndigits_zero (fuel : ℕ) : ndigits fuel 0 = 0 := by
  cases fuel <;> simp [ndigits]

theorem ndigits_spec : ∀ fuel n : ℕ, 0 < n → n < fuel →
    n < 10 ^ ndigits fuel n ∧ 10 ^ ndigits fuel n ≤ 10 * n
  | 0, _, _, h => absurd h (Nat.not_lt_zero _)
  | f + 1, n, hn, hf => by
    rw [ndigits, if_neg hn.ne', Nat.pow_add]
    rcases Nat.eq_zero_or_pos (n / 10) with h0 | h0
    · rw [h0, ndigits_zero]
      omega
    · obtain ⟨h1, h2⟩ := ndigits_spec f (n / 10) h0
        (Nat.lt_of_lt_of_le (Nat.div_lt_self hn (by decide)) (Nat.le_of_lt_succ hf))
      exact ⟨Nat.mul_comm _ 10 ▸ (Nat.div_lt_iff_lt_mul (by decide)).1 h1,
        Nat.mul_le_mul_left 10 (h2.trans (Nat.mul_div_le n 10))⟩

theorem pow10_eq (e : ℤ) : pow10 e = (10 : ℚ) ^ e := by
  unfold pow10
  split
  · rename_i h
    rw [Nat.cast_pow, Nat.cast_ofNat, ← zpow_natCast, Int.toNat_of_nonneg h]
  · rename_i h
    rw [Nat.cast_pow, Nat.cast_ofNat, one_div, ← zpow_natCast, ← zpow_neg, Int.toNat_of_nonneg (by omega), neg_neg]

/-- `i`, `j`: the digit counts of numerator and denominator -/
theorem pow_digits_le_div {n d i j : ℕ} (hd : 0 < d) (hn : 10 ^ i ≤ 10 * n) (hj : d < 10 ^ j) :
    (10 : ℚ) ^ ((i : ℤ) - j - 1) ≤ (n : ℚ) / d := by
  have h10 : (0 : ℚ) < 10 := by norm_num
  have hn' : (10 : ℚ) ^ i / 10 ≤ n := (div_le_iff₀' h10).2 (by exact_mod_cast hn)
  have hj' : (d : ℚ) ≤ 10 ^ j := by exact_mod_cast hj.le
  rw [zpow_sub_one₀ h10.ne', zpow_sub₀ h10.ne', zpow_natCast, zpow_natCast, ← div_eq_mul_inv, div_right_comm]
  exact div_le_div₀ n.cast_nonneg hn' (Nat.cast_pos.2 hd) hj'

theorem adjExp_le (q : ℚ) (hq : q ≠ 0) : pow10 (adjExp q) ≤ |q| := by
  have habs : (if q < 0 then -q else q) = |q| := by
    split_ifs with h
    · exact (abs_of_neg h).symm
    · exact (abs_of_nonneg (not_lt.1 h)).symm
  have hpos : 0 < |q| := abs_pos.mpr hq
  unfold adjExp
  simp only [habs]
  generalize |q| = a at hpos ⊢
  split_ifs with h1 h2
  · exact h2
  · exact h1
  · -- the digit-count estimate was one too high
    have hn : 0 < a.num.toNat := Int.pos_iff_toNat_pos.1 (Rat.num_pos.2 hpos)
    have ha : a = (a.num.toNat : ℚ) / (a.den : ℚ) := by
      rw [← Int.cast_natCast, Int.toNat_of_nonneg (Rat.num_pos.2 hpos).le, Rat.num_div_den]
    rw [pow10_eq]
    conv_rhs => rw [ha]
    exact pow_digits_le_div a.den_pos (ndigits_spec _ _ hn (Nat.lt_succ_self _)).2
      (ndigits_spec _ _ a.den_pos (Nat.lt_succ_self _)).1

/-- relative error at most `5·10⁻ᵖ`, stated without division or `p - 1` -/
theorem roundSig_rel (p : ℕ) (q : ℚ) : |roundSig p q - q| * (2 * 10 ^ p) ≤ 10 * |q| := by
  unfold roundSig
  split
  · rename_i hq
    rw [hq, sub_self, abs_zero, zero_mul, mul_zero]
  rename_i hq
  have hle := adjExp_le q hq
  simp only [pow10_eq] at hle ⊢
  have h10 : (10 : ℚ) ≠ 0 := by norm_num
  -- the scale is `10 ^ (e + 1 - p)`, and `10 ^ e ≤ |q|`
  have hsc : (10 : ℚ) ^ (adjExp q - (p : ℤ) + 1) * 10 ^ p = 10 * 10 ^ adjExp q := by
    rw [← zpow_natCast (10 : ℚ) p, ← zpow_add₀ h10, sub_add_eq_add_sub, sub_add_cancel, zpow_add_one₀ h10, mul_comm]
  calc _ ≤ (10 : ℚ) ^ (adjExp q - (p : ℤ) + 1) / 2 * (2 * 10 ^ p) :=
        mul_le_mul_of_nonneg_right (abs_roundHalfUpInt_mul_sub_le q (zpow_pos (by norm_num) _))
          (mul_nonneg zero_le_two (pow_nonneg (by norm_num) p))
    _ = 10 * 10 ^ adjExp q := by rw [← mul_assoc, div_mul_cancel₀ _ two_ne_zero, hsc]
    _ ≤ 10 * |q| := mul_le_mul_of_nonneg_left hle (by norm_num)

/-- `m` is `p` up to `e / 200000`, and `r` renders `m` to a relative 1/200000 -/
theorem round_twice {p m r e : ℚ} (h1 : |m - p| * 200000 ≤ e) (h2 : |r - m| * 200000 ≤ |m|) :
    |r - p| ≤ (|p| + e) / 199999 := by
  have t1 := abs_sub_le r m p
  have t2 := abs_add_le p (m - p)
  rw [add_sub_cancel] at t2
  have := abs_nonneg (m - p)
  have := abs_nonneg p
  rw [le_div_iff₀ (by norm_num)]
  -- `|m - p|` counts twice, directly and through `|m|`: hence 200000 - 1
  linarith

theorem relErr_div {d a c : ℚ} (s : ℚ) (h : |d - a| * c ≤ |a|) : |d / s - a / s| * c ≤ |a / s| := by
  rw [← sub_div, abs_div, abs_div, div_mul_eq_mul_div]
  exact div_le_div_of_nonneg_right h (abs_nonneg s)

end HapVerif.Convert
