import HapVerif.Model.Tlv8Struct
import HapVerif.Proofs.Bytes
import HapVerif.Proofs.ExceptDo
import HapVerif.Proofs.Tlv

/-! The generic `TLVStruct` round trip.  The fragment writer is the pairing codec's, so what `tlv_iterator` does with its
output is proved by induction on the specification's `Frags`. -/

namespace HapVerif.Tlv8
open HapVerif HapVerif.Spec.Tlv8

theorem frag_eq_encFrag (t : UInt8) : ∀ (n : Nat) (v : Bytes), frag t n v = Tlv.encFrag t n v
  | 0, _ => rfl
  | _ + 1, [] => rfl
  | n + 1, b :: v => by rw [frag, Tlv.encFrag, frag_eq_encFrag t n] <;> exact List.cons_ne_nil _ _

theorem frag_frags (t : UInt8) (e : Bytes) (he : e ≠ []) : Frags t e (frag t e.length e) := by
  rw [frag_eq_encFrag]; exact Tlv.encFrag_frags t _ e he (Nat.le_refl _)

theorem frags_length_le {t : UInt8} {e out : Bytes} (h : Frags t e out) : e.length + 2 ≤ out.length := by
  induction h with
  | last v _ => simp
  | more c r out _ _ _ ih => simp only [List.length_cons, List.length_append] at ih ⊢; omega

theorem join_stop (t : UInt8) (f off len : Nat) (value rest : Bytes) (h : (rest.drop len).head? ≠ some t) :
    join t f off len value rest = .ok (off, len, value, rest.drop len) := by
  fun_cases join t f off len value rest
  next => rfl -- no fuel
  next => rfl -- short fragment
  next => rfl -- buffer ends
  next => rfl -- another type
  next t' ht _ _ hafter => -- no length byte
    exact absurd (Decidable.not_not.mp ht ▸ congrArg List.head? hafter) h
  next t' ht _ _ _ _ hafter => -- one more fragment
    exact absurd (Decidable.not_not.mp ht ▸ congrArg List.head? hafter) h

/-- of the fragment reported last (offset `o`, length `n`) callers use only that it ends where the encoding ends -/
theorem join_frags {t : UInt8} {e out tail : Bytes} (h : Frags t e out) (htail : tail.head? ≠ some t) :
    ∀ (pre : Bytes) (off : Nat), ∃ l body o n, out = t :: l :: body ∧ o + 2 + n = off + out.length ∧
      ∀ f, (body ++ tail).length < f →
        join t f off l.toNat (pre ++ (body ++ tail).take l.toNat) (body ++ tail) = .ok (o, n, pre ++ e, tail) := by
  induction h with
  | last v hv =>
    intro pre off
    refine ⟨_, v, off, v.length, rfl, by rw [Nat.add_assoc, Nat.add_comm 2]; rfl, fun f _ => ?_⟩
    rw [UInt8.toNat_ofNat_of_lt' (Nat.lt_succ_of_le hv), List.take_left, join_stop, List.drop_left]
    rwa [List.drop_left]
  | more c r out hc _ _ ih =>
    intro pre off
    obtain ⟨l, body, o, n, rfl, hon, hj⟩ := ih (pre ++ c) (off + 2 + 255)
    refine ⟨255, c ++ t :: l :: body, o, n, rfl, by simp only [List.length_cons, List.length_append] at hon ⊢; omega,
      fun f hf => ?_⟩
    cases f with
    | zero => exact absurd hf (Nat.not_lt_zero _)
    | succ f =>
      have h255 : (255 : UInt8).toNat = c.length := hc.symm
      rw [h255, List.append_assoc c, List.take_left, join, List.drop_left]
      simp only [hc, ne_eq, not_true_eq_false, if_false, List.cons_append]
      rw [hj f (by simp only [List.length_append, List.length_cons] at hf ⊢; omega), List.append_assoc]

/-- `tlv_iterator`, entered at offset `off` with `b` left to read, yields `items` at every sufficient fuel: a relation, so
that the rules below compose and two fuels are never compared -/
def Iter (off : Nat) (b : Bytes) (items : List (Nat × UInt8 × Nat × Bytes)) : Prop :=
  ∀ fuel, b.length < fuel → iterAux fuel off b = .ok items

theorem Iter.iter {b : Bytes} {items : List (Nat × UInt8 × Nat × Bytes)} (h : Iter 0 b items) : iter b = .ok items :=
  h _ (Nat.lt_succ_self _)

theorem Iter.nil (off : Nat) : Iter off [] [] := by
  intro fuel _
  cases fuel <;> rfl

theorem Iter.cons_cons {t l : UInt8} {rest v rem : Bytes} {off o n : Nat} {items : List (Nat × UInt8 × Nat × Bytes)}
    (hj : ∀ f, rest.length < f → join t f off l.toNat (rest.take l.toNat) rest = .ok (o, n, v, rem))
    (hrem : rem.length ≤ rest.length) (hr : Iter (o + 2 + n) rem items) :
    Iter off (t :: l :: rest) ((o, t, n, v) :: items) := by
  intro fuel hf
  cases fuel with
  | zero => exact absurd hf (Nat.not_lt_zero _)
  | succ f =>
    have hf : rest.length + 1 < f := Nat.lt_of_succ_lt_succ hf
    rw [iterAux, hj f (Nat.lt_of_succ_lt hf)]
    simp only [hr f (Nat.lt_of_le_of_lt hrem (Nat.lt_of_succ_lt hf))]

theorem Iter.frags {t : UInt8} {e out tail : Bytes} (h : Frags t e out) (htail : tail.head? ≠ some t) {off : Nat}
    {items : List (Nat × UInt8 × Nat × Bytes)} (hr : Iter (off + out.length) tail items) :
    ∃ o n, Iter off (out ++ tail) ((o, t, n, e) :: items) := by
  obtain ⟨l, body, o, n, rfl, hon, hj⟩ := join_frags h htail [] off
  exact ⟨o, n, Iter.cons_cons (rest := body ++ tail) hj (List.length_append ▸ Nat.le_add_left _ _) (hon ▸ hr)⟩

/-- concatenation of canonically fragmented (type, value) segments -/
def cat : List (UInt8 × Bytes) → Bytes
  | [] => []
  | (t, e) :: rest => frag t e.length e ++ cat rest

/-- adjacent segments have different types and no segment is empty -/
def GoodSegs : List (UInt8 × Bytes) → Prop
  | [] => True
  | [(_, e)] => e ≠ []
  | (t, e) :: (t', e') :: rest => e ≠ [] ∧ t ≠ t' ∧ GoodSegs ((t', e') :: rest)

theorem goodSegs_cons (t : UInt8) (e : Bytes) (rest : List (UInt8 × Bytes)) :
    GoodSegs ((t, e) :: rest) ↔ e ≠ [] ∧ (∀ s ∈ rest.head?, t ≠ s.1) ∧ GoodSegs rest := by
  match rest with
  | [] => simp [GoodSegs]
  | (t', e') :: r => simp [GoodSegs]

theorem goodSegs_of_nodup : ∀ (segs : List (UInt8 × Bytes)), (segs.map (·.1)).Nodup → (∀ s ∈ segs, s.2 ≠ []) →
    GoodSegs segs
  | [], _, _ => trivial
  | (t, e) :: rest, hnd, hne =>
    (goodSegs_cons t e rest).mpr ⟨hne _ (List.mem_cons_self ..),
      fun s hs heq => (List.nodup_cons.mp hnd).1 (List.mem_map.mpr ⟨s, List.mem_of_mem_head? hs, heq.symm⟩),
      goodSegs_of_nodup rest (List.nodup_cons.mp hnd).2 (fun s hs => hne s (List.mem_cons_of_mem _ hs))⟩

theorem cat_head (t : UInt8) (e : Bytes) (rest : List (UInt8 × Bytes)) (he : e ≠ []) :
    ∃ r, cat ((t, e) :: rest) = t :: r := by
  have h := frag_frags t e he
  rw [cat]
  generalize frag t e.length e = out at h
  cases h <;> exact ⟨_, rfl⟩

theorem cat_ne_nil {segs : List (UInt8 × Bytes)} (h : GoodSegs segs) (hne : segs ≠ []) : cat segs ≠ [] := by
  obtain ⟨⟨t, e⟩, rest, rfl⟩ := List.exists_cons_of_ne_nil hne
  obtain ⟨r, hr⟩ := cat_head t e rest ((goodSegs_cons t e rest).mp h).1
  rw [hr]
  exact List.cons_ne_nil _ _

theorem head?_cat_ne {segs : List (UInt8 × Bytes)} (h : GoodSegs segs) {t : UInt8} (hnext : ∀ s ∈ segs.head?, t ≠ s.1)
    {tail : Bytes} (htail : tail.head? ≠ some t) : (cat segs ++ tail).head? ≠ some t := by
  match segs, h, hnext with
  | [], _, _ => exact htail
  | (t', e') :: r, h, hnext =>
    obtain ⟨x, hx⟩ := cat_head t' e' r ((goodSegs_cons t' e' r).mp h).1
    rw [hx]
    exact fun h => hnext _ rfl (Option.some.inj h).symm

theorem Iter.segs : ∀ (segs : List (UInt8 × Bytes)), GoodSegs segs → ∀ {tail : Bytes},
    (∀ s ∈ segs, tail.head? ≠ some s.1) → ∀ {off : Nat} {items : List (Nat × UInt8 × Nat × Bytes)},
    Iter (off + (cat segs).length) tail items →
    ∃ its, Iter off (cat segs ++ tail) (its ++ items) ∧ its.map (fun it => (it.2.1, it.2.2.2)) = segs
  | [], _, _, _, _, _, hr => ⟨[], hr, rfl⟩
  | (t, e) :: rest, h, tail, htail, off, _, hr => by
    obtain ⟨he, hnext, hrest⟩ := (goodSegs_cons t e rest).mp h
    rw [cat, List.length_append, ← Nat.add_assoc] at hr
    obtain ⟨its, hi, hm⟩ := Iter.segs rest hrest (fun s hs => htail s (List.mem_cons_of_mem _ hs)) hr
    obtain ⟨o, n, h1⟩ := Iter.frags (frag_frags t e he) (head?_cat_ne hrest hnext (htail _ (List.mem_cons_self ..))) hi
    exact ⟨(o, t, n, e) :: its, by rwa [cat, List.append_assoc], by rw [List.map_cons, hm]⟩

theorem iter_cat (segs : List (UInt8 × Bytes)) (h : GoodSegs segs) :
    ∃ items, iter (cat segs) = .ok items ∧ items.map (fun it => (it.2.1, it.2.2.2)) = segs := by
  obtain ⟨its, hi, hm⟩ := Iter.segs segs h (tail := []) (fun _ _ => nofun) (Iter.nil _)
  rw [List.append_nil, List.append_nil] at hi
  exact ⟨its, hi.iter, hm⟩

theorem decField_at (t : Nat) (ty : FieldTy) (value : Bytes) (fs2 : List (Nat × FieldTy))
    (hno : fs2.any (fun f => f.1 = t) = false) :
    ∀ (fs1 : List (Nat × FieldTy)) (idx : Nat) (acc : List (Option Val)),
    decField (fs1 ++ (t, ty) :: fs2) t value idx acc =
      (decVal ty value).map (fun v => acc.set (idx + fs1.length) (some v)) := by
  intro fs1
  induction fs1 with
  | nil =>
    intro idx acc
    simp only [List.nil_append, decField, hno, Bool.false_eq_true, if_false, if_true, List.length_nil, Nat.add_zero]
  | cons f fs1 ih =>
    intro idx acc
    have hany : (fs1 ++ (t, ty) :: fs2).any (fun f => f.1 = t) = true := by simp
    rw [List.cons_append, decField, if_pos hany, ih (idx + 1) acc, List.length_cons, Nat.add_assoc, Nat.add_comm 1]

/-- the per-field encodings of a positional value list -/
inductive Enc : List (Nat × FieldTy) → List (Option Val) → List (Option Bytes) → Prop
  | nil : Enc [] [] []
  | none (t ty fs vs es) : Enc fs vs es → Enc ((t, ty) :: fs) (none :: vs) (none :: es)
  | some (t ty fs vs es v e) : encVal ty v = .ok e → e ≠ [] → decVal ty e = .ok v → Enc fs vs es →
      Enc ((t, ty) :: fs) (some v :: vs) (some e :: es)

/-- what `Enc.some` asks of a field that is set -/
def FieldRT (ty : FieldTy) (v : Val) (e : Bytes) : Prop :=
  encVal ty v = .ok e ∧ e ≠ [] ∧ decVal ty e = .ok v

theorem FieldRT.enc {ty : FieldTy} {v : Val} {e : Bytes} (h : FieldRT ty v e) : encVal ty v = .ok e := h.1

theorem FieldRT.ne_nil {ty : FieldTy} {v : Val} {e : Bytes} (h : FieldRT ty v e) : e ≠ [] := h.2.1

theorem FieldRT.dec {ty : FieldTy} {v : Val} {e : Bytes} (h : FieldRT ty v e) : decVal ty e = .ok v := h.2.2

theorem Enc.field {t : Nat} {ty : FieldTy} {fs : List (Nat × FieldTy)} {vs : List (Option Val)} {es : List (Option Bytes)}
    {v : Val} {e : Bytes} (h : FieldRT ty v e) (hs : Enc fs vs es) :
    Enc ((t, ty) :: fs) (Option.some v :: vs) (Option.some e :: es) :=
  .some _ _ _ _ _ _ _ h.enc h.ne_nil h.dec hs

/-- the (type, encoding) segments `encFields` writes -/
def segsOf : List (Nat × FieldTy) → List (Option Bytes) → List (UInt8 × Bytes)
  | (t, _) :: fs, some e :: es => (UInt8.ofNat t, e) :: segsOf fs es
  | _ :: fs, none :: es => segsOf fs es
  | _, _ => []

theorem encFields_cat (fs : List (Nat × FieldTy)) (vs : List (Option Val)) (es : List (Option Bytes))
    (h : Enc fs vs es) : encFields fs vs = .ok (cat (segsOf fs es)) := by
  induction h with
  | nil => rfl
  | none t ty fs vs es _ ih => rw [encFields, ih]; rfl
  | some t ty fs vs es v e he _ _ _ ih => rw [encFields, he, ih]; rfl

/-- the body of `decStruct`'s fold, which reads only the type and the value of an item -/
def setSeg (fs : List (Nat × FieldTy)) (acc : List (Option Val)) (s : UInt8 × Bytes) : Except Err (List (Option Val)) :=
  decField fs s.1.toNat s.2 0 acc

theorem decStruct_eq (fs : List (Nat × FieldTy)) (b : Bytes) :
    decStruct (.mk fs) b = iter b >>= fun items =>
      ((items.map fun it => (it.2.1, it.2.2.2)).foldlM (setSeg fs) (fs.map fun _ => none)).map .mk := by
  simp only [decStruct, List.foldlM_map, bind_pure_comp]
  rfl

/-- `fs1`, `pre`: the fields dealt with; only the distinctness of the types still to come matters -/
theorem foldlM_setSeg {fs2 : List (Nat × FieldTy)} {vs2 : List (Option Val)} {es2 : List (Option Bytes)}
    (h : Enc fs2 vs2 es2) (hnd : (fs2.map (·.1)).Nodup) (hlt : ∀ f ∈ fs2, f.1 < 256) :
    ∀ (fs1 : List (Nat × FieldTy)) (pre : List (Option Val)), pre.length = fs1.length →
    (segsOf fs2 es2).foldlM (setSeg (fs1 ++ fs2)) (pre ++ fs2.map (fun _ => none)) = .ok (pre ++ vs2) := by
  induction h with
  | nil =>
    intro fs1 pre _
    rfl
  | none t ty fs vs es _ ih =>
    intro fs1 pre hl
    have := ih (List.nodup_cons.mp hnd).2 (fun f hf => hlt f (List.mem_cons_of_mem _ hf)) (fs1 ++ [(t, ty)])
      (pre ++ [none]) (by simp [hl])
    rwa [List.append_assoc, List.append_assoc, List.append_assoc] at this
  | some t ty fs vs es v e _ _ hdec _ ih =>
    intro fs1 pre hl
    obtain ⟨hnotin, hnd'⟩ := List.nodup_cons.mp hnd
    have hno : fs.any (fun f => decide (f.1 = t)) = false :=
      List.any_eq_false.mpr fun f hf hft => hnotin (List.mem_map.mpr ⟨f, hf, of_decide_eq_true hft⟩)
    have hset : (pre ++ none :: fs.map (fun _ => none)).set fs1.length (some v) =
        pre ++ some v :: fs.map (fun _ => none) := by
      rw [← hl, List.set_append_right _ _ (Nat.le_refl _), Nat.sub_self]; rfl
    rw [segsOf, List.foldlM_cons, setSeg, UInt8.toNat_ofNat_of_lt' (hlt (t, ty) (List.mem_cons_self ..)),
      decField_at t ty e fs hno fs1 0 _, hdec, Nat.zero_add, List.map_cons]
    simp only [Except.map, bind, Except.bind]
    rw [hset]
    have := ih hnd' (fun f hf => hlt f (List.mem_cons_of_mem _ hf)) (fs1 ++ [(t, ty)]) (pre ++ [some v]) (by simp [hl])
    rwa [List.append_assoc, List.append_assoc, List.append_assoc] at this

theorem segsOf_sublist {fs : List (Nat × FieldTy)} {vs : List (Option Val)} {es : List (Option Bytes)} (h : Enc fs vs es) :
    ((segsOf fs es).map (·.1)).Sublist (fs.map (UInt8.ofNat ·.1)) := by
  induction h with
  | nil => exact .slnil
  | none t ty fs vs es _ ih => exact .cons _ ih
  | some t ty fs vs es v e _ _ _ _ ih => exact .cons_cons _ ih

theorem segsOf_ne_nil {fs : List (Nat × FieldTy)} {vs : List (Option Val)} {es : List (Option Bytes)} (h : Enc fs vs es) :
    ∀ s ∈ segsOf fs es, s.2 ≠ [] := by
  induction h with
  | nil => exact nofun
  | none t ty fs vs es _ ih => exact ih
  | some t ty fs vs es v e _ hne _ _ ih =>
    intro s hs
    rcases List.mem_cons.mp hs with rfl | hs
    · exact hne
    · exact ih s hs

theorem segsOf_types {fs : List (Nat × FieldTy)} {vs : List (Option Val)} {es : List (Option Bytes)} (h : Enc fs vs es) :
    ∀ s ∈ segsOf fs es, ∃ f ∈ fs, s.1 = UInt8.ofNat f.1 := by
  intro s hs
  obtain ⟨f, hf, hfs⟩ := List.mem_map.mp ((segsOf_sublist h).subset (List.mem_map_of_mem hs))
  exact ⟨f, hf, hfs.symm⟩

theorem goodSegs_of_enc (fs : List (Nat × FieldTy)) (vs : List (Option Val)) (es : List (Option Bytes))
    (h : Enc fs vs es) (hnd : (fs.map (·.1)).Nodup) (hlt : ∀ f ∈ fs, f.1 < 256) : GoodSegs (segsOf fs es) := by
  refine goodSegs_of_nodup _ ((segsOf_sublist h).nodup ?_) (segsOf_ne_nil h)
  exact List.pairwise_map.mpr ((List.pairwise_map.mp hnd).imp_of_mem
    fun ha hb hne heq => hne (ofNat_inj_lt _ _ (hlt _ ha) (hlt _ hb) heq))

theorem struct_roundtrip (fs : List (Nat × FieldTy)) (vs : List (Option Val)) (es : List (Option Bytes))
    (h : Enc fs vs es) (hnd : (fs.map (·.1)).Nodup) (hlt : ∀ f ∈ fs, f.1 < 256) :
    encStruct (.mk fs) (.mk vs) = .ok (cat (segsOf fs es)) ∧
    decStruct (.mk fs) (cat (segsOf fs es)) = .ok (.mk vs) := by
  refine ⟨by rw [encStruct, encFields_cat fs vs es h], ?_⟩
  obtain ⟨items, hi, hm⟩ := iter_cat (segsOf fs es) (goodSegs_of_enc fs vs es h hnd hlt)
  have hf := foldlM_setSeg h hnd hlt [] [] rfl
  rw [List.nil_append, List.nil_append, List.nil_append] at hf
  rw [decStruct_eq, hi, Except.ok_bind, hm, hf]
  rfl

theorem field_uint (n x : Nat) (hn : 0 < n) (hx : x < 256 ^ n) :
    FieldRT (.uint n) (.int x) (natToLe n x) := by
  refine ⟨by simp [encVal, leBytes?, hx], natToLe_ne_nil n x hn, ?_⟩
  simp [decVal, natToLe_val n x hx]

theorem field_buint16 (x : Nat) (hx : x < 65536) :
    FieldRT .buint16 (.int x) (natToLe 2 x).reverse := by
  refine ⟨by simp [encVal, leBytes?, hx, Except.map], ?_, ?_⟩
  · exact fun h => natToLe_ne_nil 2 x (by decide) (List.reverse_eq_nil_iff.mp h)
  · simp [decVal, beToNat_reverse, natToLe_val 2 x hx]

theorem field_bytes (b : Bytes) (hb : b ≠ []) :
    FieldRT .bytes (.raw b) b := ⟨rfl, hb, rfl⟩

theorem field_str (b : Bytes) (hb : b ≠ []) (hu : validUtf8 b.length b = true) :
    FieldRT .str (.raw b) b := by
  refine ⟨rfl, hb, ?_⟩
  simp [decVal, hu]

theorem field_enum (ms : List Nat) (x : Nat) (hm : x ∈ ms) (hx : x < 256) :
    FieldRT (.enum ms) (.int x) (natToLe 1 x) := by
  refine ⟨by simp [encVal, leBytes?, hx], natToLe_ne_nil 1 x (by omega), ?_⟩
  simp [decVal, natToLe_val 1 x hx, hm]

theorem field_struct (fs : List (Nat × FieldTy)) (vs : List (Option Val)) (es : List (Option Bytes))
    (h : Enc fs vs es) (hnd : (fs.map (·.1)).Nodup) (hlt : ∀ f ∈ fs, f.1 < 256)
    (hne : cat (segsOf fs es) ≠ []) :
    FieldRT (.struct (.mk fs)) (.struct (.mk vs)) (cat (segsOf fs es)) := by
  obtain ⟨h1, h2⟩ := struct_roundtrip fs vs es h hnd hlt
  refine ⟨by simp [encVal, h1], hne, ?_⟩
  simp [decVal, h2, Except.map]

end HapVerif.Tlv8
