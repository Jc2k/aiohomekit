import HapVerif.Proofs.Reconnect

/-! # Events that cause no connection attempt: under `closing`, and while the pairing is connected -/

namespace HapVerif.Reconnect

def isAttempt : Obs → Bool
  | .attempt _ _ => true
  | _ => false

/-- the connection attempts recorded so far -/
def attempts (s : St) : List Obs := s.obs.filter isAttempt

/-- an event that (re)starts connecting: a caller asking for the connection, or zeroconf seeing the device -/
def Ev.isTrigger : Ev → Bool
  | .ensure _ _ | .soon | .descr _ => true
  | _ => false

theorem attempts_append {s s' : St} {l : List Obs} (e : s'.obs = s.obs ++ l) (hl : ∀ o ∈ l, isAttempt o = false) :
    attempts s' = attempts s := by
  have : l.filter isAttempt = [] := List.filter_eq_nil_iff.mpr fun o ho => by simp [hl o ho]
  rw [attempts, e, List.filter_append, this, List.append_nil, attempts]

theorem not_attempt_waiters (ws : List Waiter) (f : Waiter → WOut) (g : Waiter → Time) :
    ∀ o ∈ ws.map (fun w => Obs.waiter w.id (f w) (g w)), isAttempt o = false := by
  intro o ho
  obtain ⟨w, -, rfl⟩ := List.mem_map.mp ho
  rfl

theorem attempts_closeConn (s : St) (h : s.conn.live = false) : attempts (closeConn s) = attempts s := by
  rw [closeConn_eq, stopConnector_idle { s with closing := true } h, dropTransport_eq]
  refine attempts_append rfl fun o ho => ?_
  obtain ⟨c, t, rfl⟩ := dropLog_closed _ o ho
  rfl

/-- zeroconf finds the connector neither asleep nor needed -/
theorem reconnectSoon_idle {s : St} (hl : s.conn.live = false) (hc : s.isConnected = true) : reconnectSoon s = s := by
  unfold reconnectSoon
  split
  · rename_i hx
    rw [hx] at hl
    cases hl
  · rw [startReconnecting_fst, if_pos hc]

structure Quiet (s s' : St) : Prop where
  sameAttempts : attempts s' = attempts s
  keepsClosing : s.closing = true → s'.closing = true
  keepsShutdown : s.shutdown = true → s'.shutdown = true

theorem quiet_step {s : St} {e : Ev} (h : Sup s) (hl : s.conn.live = false)
    (ht : e.isTrigger = true → s.shutdown = true ∨ s.isConnected = true) (hd : ∀ c, e = .drop c → s.current ≠ some c) :
    Quiet s (step s e) := by
  cases e with
  | adv dt =>
    simp only [step]
    rw [advanceTo_idle _ _ _ hl]
    exact ⟨attempts_append rfl (not_attempt_waiters _ _ _), id, id⟩
  | ensure i own =>
    simp only [step, Bool.or_eq_true_iff.mpr (ht rfl), if_true]
    exact ⟨attempts_append rfl (by simp [isAttempt]), id, id⟩
  | cancelW i => exact ⟨attempts_append rfl (not_attempt_waiters _ _ _), id, id⟩
  | soon =>
    rw [step]
    split
    · exact ⟨rfl, id, id⟩
    · rw [reconnectSoon_idle hl ((ht rfl).resolve_left ‹_›)]
      exact ⟨rfl, id, id⟩
  | descr hs =>
    rw [step]
    split
    · exact ⟨rfl, id, id⟩
    · rw [reconnectSoon_idle (s := { s with desc := some hs }) hl ((ht rfl).resolve_left ‹_›)]
      exact ⟨rfl, id, id⟩
  | close => exact ⟨attempts_closeConn s hl, fun _ => closeConn_closing s, (closeConn_shutdown s).trans⟩
  | shutdown =>
    exact ⟨attempts_closeConn { s with shutdown := true } hl, fun _ => closeConn_closing _, fun _ => closeConn_shutdown _⟩
  | pushTcp | pushVer => exact ⟨rfl, id, id⟩
  | drop c =>
    rw [drop_stale h.toBase (hd c rfl)]
    exact ⟨rfl, id, id⟩

-- an induction of its own: `Sup` and `closing` travel with the state
theorem silent_run (l : List Ev) {s : St} (h : Sup s) (hcl : s.closing = true)
    (he : (∀ e ∈ l, e.isTrigger = false) ∨ s.shutdown = true) : Quiet s (run s l) := by
  induction l generalizing s with
  | nil => exact ⟨rfl, id, id⟩
  | cons e es ih =>
    have q : Quiet s (step s e) := quiet_step h (h.closing_dead hcl)
      (fun ht => .inl (he.resolve_left fun hl => nomatch (hl e (.head _)).symm.trans ht))
      fun c _ => h.closing_current hcl ▸ nofun
    have q' := ih (step_sup h e) (q.keepsClosing hcl) (he.imp (fun hl x hx => hl x (.tail _ hx)) q.keepsShutdown)
    exact ⟨q'.sameAttempts.trans q.sameAttempts, q'.keepsClosing ∘ q.keepsClosing, q'.keepsShutdown ∘ q.keepsShutdown⟩

end HapVerif.Reconnect
