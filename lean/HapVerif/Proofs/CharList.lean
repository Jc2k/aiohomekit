import HapVerif.Model.CharList

namespace HapVerif.CharList

theorem rget_rset (r : Result) (k k' : Key) (v : Obj) :
    rget (rset r k v) k' = if k = k' then some v else rget r k' := by
  unfold rset rget
  split
  · next h =>
    -- `k` is bound, updated in place: every key stays, so the same entry is found, updated
    have hkey : (fun x : Key × Obj => decide (x.1 = k')) ∘ (fun kv => if kv.1 = k then (k, v) else kv) =
        fun x => decide (x.1 = k') := by
      funext x
      by_cases hx : x.1 = k <;> simp only [Function.comp_apply, hx, if_true, if_false]
    rw [List.find?_map, hkey]
    cases hx : r.find? (fun x => decide (x.1 = k')) with
    | none =>
      obtain ⟨a, ha, hak⟩ := List.any_eq_true.1 h
      rw [if_neg fun e : k = k' => List.find?_eq_none.1 hx a ha (e ▸ hak)]
      rfl
    | some x =>
      have hxk : x.1 = k' := by simpa using List.find?_some hx
      simp only [Option.map_some, hxk, eq_comm (a := k')]
      split <;> rfl
  · next h =>
    -- `k` is not bound, appended: found there if not before
    rw [List.find?_append, List.find?_singleton]
    by_cases hk : k = k'
    · rw [← hk, List.find?_eq_none.2 fun x hx hxk => h (List.any_eq_true.2 ⟨x, hx, hxk⟩)]
      simp only [decide_true, if_true, Option.none_or, Option.map_some]
    · simp only [hk, decide_false, Bool.false_eq_true, if_false, Option.or_none]

theorem rget_foldl_rset_of_mem (e : Obj) {k : Key} {req : List Key} (hk : k ∈ req) (t : Result) :
    rget (req.foldl (fun t k => rset t k e) t) k = some e := by
  obtain ⟨pre, post, rfl⟩ := List.append_of_mem hk
  rw [List.foldl_append, List.foldl_cons]
  exact List.foldlRecOn post _ (motive := fun t => rget t k = some e) (by rw [rget_rset, if_pos rfl]) fun t ht a _ => by
    rw [rget_rset, ht, ite_self]

theorem find?_eq_some_of_nodup_map {α κ} [DecidableEq κ] (key : α → κ) : ∀ {l : List α}, (l.map key).Nodup → ∀ {r}, r ∈ l →
    l.find? (fun x => key x = key r) = some r
  | a :: l, hnd, r, hr => by
    rw [List.map_cons, List.nodup_cons] at hnd
    rw [List.find?_cons]
    rcases List.mem_cons.1 hr with rfl | hr
    · rw [decide_eq_true rfl]
    · have : key a ≠ key r := fun h => hnd.1 (h ▸ List.mem_map_of_mem hr)
      rw [decide_eq_false this]
      exact find?_eq_some_of_nodup_map key hnd.2 hr

theorem filter_true' {α} (l : List α) : l.filter (fun _ => true) = l :=
  List.filter_eq_self.2 fun _ _ => rfl

theorem foldl_notified {α} (rej : α → Key → Bool) (f : PutResult → α → PutResult)
    (hf : ∀ acc c, (f acc c).notified = acc.notified.filter (fun k => !rej c k)) : ∀ (l : List α) (acc : PutResult),
    (l.foldl f acc).notified = acc.notified.filter (fun k => l.all (fun c => !rej c k))
  | [], acc => (filter_true' _).symm
  | c :: l, acc => by
    rw [List.foldl_cons, foldl_notified rej f hf l, hf, List.filter_filter]
    simp only [List.all_cons, Bool.and_comm]

theorem blePut_accepted (rest : List (Key × Perm × Bool)) : ∀ (pre : List (Key × Perm × Bool)) (n : List Key) (r : Result),
    (∀ x ∈ pre, x.2.1.writable = true ∧ x.2.2 = true) →
    blePut (pre ++ rest) n r = blePut rest (n ++ (pre.filter (·.2.1.readable)).map (·.1)) r
  | [], n, r, _ => by rw [List.filter_nil, List.map_nil, List.append_nil, List.nil_append]
  | (xk, xp, xa) :: pre, n, r, h => by
    have hx := h (xk, xp, xa) List.mem_cons_self
    simp only at hx
    simp only [List.cons_append, blePut, hx.1, hx.2, Bool.not_true, Bool.false_eq_true, if_false]
    rw [blePut_accepted rest pre _ _ fun y hy => h y (List.mem_cons_of_mem _ hy)]
    cases hr : xp.readable <;>
      simp only [List.filter_cons, hr, Bool.false_eq_true, if_false, if_true, List.map_cons, List.append_assoc,
        List.cons_append, List.nil_append]

theorem mem_bleGet (k : Key) (v : Nat) : ∀ req : List (Key × BleAnswer),
    (k, v) ∈ bleGet req ↔ (k, BleAnswer.value v) ∈ req
  | [] => by simp only [bleGet, List.not_mem_nil]
  | (k', .value v') :: rest => by
    simp only [bleGet, List.mem_cons, mem_bleGet k v rest, Prod.mk.injEq, BleAnswer.value.injEq]
  | (k', .refused _) :: rest => by
    simp only [bleGet, List.mem_cons, mem_bleGet k v rest, Prod.mk.injEq, reduceCtorEq, and_false, false_or]
  | (k', .undecodable) :: rest => by
    simp only [bleGet, List.mem_cons, mem_bleGet k v rest, Prod.mk.injEq, reduceCtorEq, and_false, false_or]

end HapVerif.CharList
