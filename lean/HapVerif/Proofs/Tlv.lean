import HapVerif.Model.Tlv
import HapVerif.Spec.Tlv8

/-! The pairing TLV codec (core Lean only).  `dec` is the decoding loop without fuel.  The writer emits the specification's
`Frags`; the reader takes any `Canonical` stream of `l`, a raw item sequence included, to `merge l`. -/

namespace HapVerif.Tlv
open HapVerif.Spec.Tlv8

theorem toNat_ofNat_min (n : Nat) : (UInt8.ofNat (min n 255)).toNat = min n 255 :=
  UInt8.toNat_ofNat_of_lt' (Nat.lt_succ_of_le (Nat.min_le_right n 255))

theorem lookup_of_mem {k : UInt8} {v : Bytes} {l : Items} (h : (k, v) ∈ l) : ∃ c, lookup k l = some c := by
  unfold lookup
  cases hf : l.reverse.find? (·.1 = k) with
  | some x => exact ⟨x.2, rfl⟩
  | none => exact absurd (decide_eq_true rfl) (List.find?_eq_none.mp hf (k, v) (List.mem_reverse.mpr h))

theorem length_drop_lt (k len : UInt8) (rest : Bytes) : (rest.drop len.toNat).length < (k :: len :: rest).length :=
  Nat.lt_of_le_of_lt (List.length_drop ▸ Nat.sub_le _ _) (Nat.lt_succ_of_lt (Nat.lt_succ_self _))

def dec (ex : Option (List UInt8)) : Bytes → Items → Bool → Except Err Items
  | [], acc, _ => .ok acc
  | [k], acc, _ => if filtered ex k then .ok acc else .error .parse
  | k :: len :: rest, acc, sk =>
    if filtered ex k then dec ex (rest.drop len.toNat) acc true
    else if (rest.take len.toNat).length ≠ len.toNat then .error .parse
    else dec ex (rest.drop len.toNat)
      (if sk then (k, rest.take len.toNat) :: acc else push acc k (rest.take len.toNat)) false
termination_by bs => bs.length
decreasing_by
  · exact length_drop_lt k len rest
  · exact length_drop_lt k len rest

theorem dec_nil (ex acc sk) : dec ex [] acc sk = .ok acc := by rw [dec]

theorem decodeAux_nil (ex fuel acc sk) : decodeAux ex fuel [] acc sk = .ok acc := by cases fuel <;> rfl

/-- `≤` suffices: out of fuel and out of input return the same -/
theorem decodeAux_eq_dec (ex) (fuel : Nat) (bs : Bytes) (acc sk) (h : bs.length ≤ fuel) :
    decodeAux ex fuel bs acc sk = dec ex bs acc sk := by
  induction fuel generalizing bs acc sk with
  | zero => rw [List.length_eq_zero_iff.mp (Nat.le_zero.mp h), decodeAux_nil, dec_nil]
  | succ fuel ih =>
    match bs with
    | [] => rw [decodeAux_nil, dec_nil]
    | [k] => simp only [decodeAux, dec]
    | k :: len :: rest =>
      have hd := Nat.le_of_lt_succ (Nat.lt_of_lt_of_le (length_drop_lt k len rest) h)
      simp only [decodeAux, dec, ih _ _ _ hd]

theorem decode_eq (ex) (bs : Bytes) : decode ex bs = (dec ex bs [] false).map List.reverse := by
  rw [decode, decodeAux_eq_dec ex _ _ _ _ (Nat.le_refl _)]
  cases dec ex bs [] false <;> rfl

theorem dec_item (ex) (k len : UInt8) (v rest : Bytes) (acc sk) (hlen : len.toNat = v.length) :
    dec ex (k :: len :: (v ++ rest)) acc sk =
      if filtered ex k then dec ex rest acc true
      else dec ex rest (if sk then (k, v) :: acc else push acc k v) false := by
  simp only [dec, hlen, List.take_left, List.drop_left, ne_eq, not_true_eq_false, if_false]

theorem dec_nil_skipped (ex) (bs : Bytes) : dec ex bs [] true = dec ex bs [] false := by
  match bs with
  | [] => rw [dec_nil, dec_nil]
  | [k] => simp only [dec]
  | k :: len :: rest => simp only [dec, push, if_true, Bool.false_eq_true, if_false]

theorem push_push (acc : Items) (k : UInt8) (a b : Bytes) : push (push acc k a) k b = push acc k (a ++ b) := by
  match acc with
  | [] => simp [push]
  | (k', p) :: acc' => by_cases h : k' = k <;> simp [push, h]

theorem encFrag_nil (k : UInt8) (n : Nat) : encFrag k n [] = [] := by cases n <;> rfl

theorem encFrag_frags (k : UInt8) (n : Nat) (v : Bytes) (hv : v ≠ []) (hl : v.length ≤ n) : Frags k v (encFrag k n v) := by
  fun_induction encFrag k n v
  next => exact absurd (List.length_eq_zero_iff.mp (Nat.le_zero.mp hl)) hv
  next => exact absurd rfl hv
  next n v _ ih =>
    by_cases hs : v.length ≤ 255
    · rw [List.drop_eq_nil_iff.mpr hs, encFrag_nil, List.append_nil, List.take_of_length_le hs, Nat.min_eq_left hs]
      exact Frags.last _ hs
    · have hlong := Nat.le_of_lt (Nat.lt_of_not_le hs)
      have hd : v.drop 255 ≠ [] := mt List.drop_eq_nil_iff.mp hs
      have := Frags.more (t := k) _ _ _ (List.length_take_of_le hlong) hd
        (ih hd (List.length_drop ▸ Nat.sub_le_of_le_add (Nat.le_trans hl (Nat.add_le_add_left (by decide : 1 ≤ 255) n))))
      rw [List.take_append_drop] at this
      rwa [Nat.min_eq_right hlong]

theorem encItem_frags (k : UInt8) (v : Bytes) : Frags k v (encItem k v) := by
  unfold encItem
  split
  · rename_i h; subst h; exact Frags.last [] (Nat.zero_le _)
  · rename_i h; exact encFrag_frags k _ v h (Nat.le_refl _)

theorem frags_long {c rest : Bytes} (hc : c.length = 255) (hrest : rest ≠ []) : ¬ (c ++ rest).length ≤ 255 := by
  rw [List.length_append, hc]
  exact Nat.not_le.mpr (Nat.lt_add_of_pos_right (List.length_pos_iff.mpr hrest))

theorem frags_unique (t : UInt8) {v o1 o2 : Bytes} (h1 : Frags t v o1) (h2 : Frags t v o2) : o1 = o2 := by
  induction h1 generalizing o2 with
  | last v hv =>
    cases h2 with
    | last => rfl
    | more c rest out hc hrest => exact absurd hv (frags_long hc hrest)
  | more c rest out hc hrest _ ih =>
    generalize hv : c ++ rest = v at h2
    cases h2 with
    | last _ hv' => exact absurd (hv ▸ hv') (frags_long hc hrest)
    | more c' rest' out' hc' _ hf' =>
      obtain ⟨rfl, rfl⟩ := List.append_inj hv (hc.trans hc'.symm)
      rw [ih hf']

theorem encodeList_cons (k v l) : encodeList ((k, v) :: l) = encItem k v ++ encodeList l := by
  simp [encodeList]

theorem dec_frags (ex) {k : UInt8} {v out : Bytes} (h : Frags k v out) : ∀ (rest : Bytes) (acc : Items) (sk : Bool),
    dec ex (out ++ rest) acc sk =
      if filtered ex k then dec ex rest acc true
      else dec ex rest (if sk then (k, v) :: acc else push acc k v) false := by
  induction h with
  | last v hv => exact fun rest acc sk => dec_item ex k _ v rest acc sk (UInt8.toNat_ofNat_of_lt' (Nat.lt_succ_of_le hv))
  | more c r out hc _ _ ih =>
    intro rest acc sk
    rw [List.cons_append, List.cons_append, List.append_assoc, dec_item ex k 255 c _ acc sk hc.symm, ih, ih]
    cases filtered ex k
    · cases sk
      · simp only [Bool.false_eq_true, if_false, push_push]
      · simp only [Bool.false_eq_true, if_false, if_true, push]
    · rfl

/-- well-formed item list: separators carry no data, equal-typed neighbours are kept apart -/
def WF : Items → Prop
  | [] => True
  | (k, v) :: rest => (k = 255 → v = []) ∧ (match rest with | [] => True | (k', _) :: _ => k ≠ k') ∧ WF rest

def pushAll (raw : List (UInt8 × Bytes)) (acc : Items) : Items :=
  raw.foldl (fun a kv => push a kv.1 kv.2) acc

theorem dec_canonical (ex) {l : Items} {o : Bytes} (h : Canonical l o) (hex : ∀ it ∈ l, filtered ex it.1 = false) :
    ∀ acc, dec ex o acc false = .ok (pushAll l acc) := by
  induction h with
  | nil => exact fun _ => dec_nil ..
  | cons t v o rest os hf _ ih =>
    intro acc
    rw [dec_frags ex hf, hex (t, v) (List.mem_cons_self ..), if_neg Bool.false_ne_true, if_neg Bool.false_ne_true]
    exact ih (fun it hit => hex it (List.mem_cons_of_mem _ hit)) _

theorem canonical_encodeList : ∀ l : Items, Canonical l (encodeList l)
  | [] => Canonical.nil
  | (k, v) :: l => encodeList_cons k v l ▸ Canonical.cons k v _ l _ (encItem_frags k v) (canonical_encodeList l)

theorem merge_cons_cons (t t2 : UInt8) (p v2 : Bytes) (raw : List (UInt8 × Bytes)) :
    merge ((t, p) :: (t2, v2) :: raw) =
      if t = t2 then merge ((t, p ++ v2) :: raw) else (t, p) :: merge ((t2, v2) :: raw) := by
  simp only [merge]
  rcases merge raw with _ | ⟨⟨t', v'⟩, m⟩
  · by_cases h : t = t2 <;> simp [h]
  · by_cases h' : t2 = t'
    · subst h'
      by_cases h : t = t2 <;> simp [h]
    · by_cases h : t = t2 <;> simp [h, h']

theorem pushAll_merge : ∀ (raw : List (UInt8 × Bytes)) (t : UInt8) (p : Bytes) (acc : Items),
    (pushAll raw ((t, p) :: acc)).reverse = acc.reverse ++ merge ((t, p) :: raw)
  | [], t, p, acc => by simp [merge, pushAll]
  | (t2, v2) :: raw, t, p, acc => by
    show (pushAll raw (push ((t, p) :: acc) t2 v2)).reverse = _
    rw [merge_cons_cons, push]
    by_cases h : t = t2
    · subst h; rw [if_pos rfl, if_pos rfl, pushAll_merge]
    · rw [if_neg h, if_neg h, pushAll_merge, List.reverse_cons, List.append_assoc]; rfl

theorem pushAll_nil_merge : ∀ (raw : List (UInt8 × Bytes)),
    (pushAll raw []).reverse = merge raw
  | [] => rfl
  | (t, v) :: raw => (pushAll_merge raw t v []).trans (List.nil_append _)

theorem merge_of_wf : ∀ {l : Items}, WF l → merge l = l
  | [], _ => rfl
  | [_], _ => rfl
  | (k, v) :: (k', v') :: rest, h => by
    rw [merge, merge_of_wf h.2.2]
    exact if_neg h.2.1

theorem decode_canonical (ex) {l : Items} {o : Bytes} (h : Canonical l o) (hex : ∀ it ∈ l, filtered ex it.1 = false) :
    decode ex o = .ok (merge l) := by
  rw [decode_eq, dec_canonical ex h hex, ← pushAll_nil_merge]
  rfl

theorem decode_skip_frags (ex) {k : UInt8} {v out : Bytes} (h : Frags k v out) (hk : filtered ex k = true) (rest : Bytes) :
    decode ex (out ++ rest) = decode ex rest := by
  rw [decode_eq, decode_eq, dec_frags ex h, if_pos hk, dec_nil_skipped]

theorem decode_encodeList (l : Items) (h : WF l) : decode none (encodeList l) = .ok l := by
  rw [decode_canonical none (canonical_encodeList l) fun _ _ => rfl, merge_of_wf h]

theorem decode_single (t : UInt8) (p : Bytes) (ht : t ≠ 255) : decode none (encodeList [(t, p)]) = .ok [(t, p)] :=
  decode_encodeList _ ⟨fun h => absurd h ht, trivial, trivial⟩

theorem reassemble_data (fuel : Nat) (p : Bytes) (rs : List Bytes) (buffer : Bytes) (n : Nat) :
    reassemble (fuel + 1) (encodeList [(12, p)] :: rs) buffer n = reassemble fuel rs (buffer ++ p) (n + 1) := by
  rw [reassemble, decode_single 12 p (by decide)]
  rfl

theorem reassemble_last (fuel : Nat) (last : Bytes) (rs : List Bytes) (buffer : Bytes) (n : Nat) :
    reassemble (fuel + 1) (encodeList [(13, last)] :: rs) buffer n =
      (match decode none (buffer ++ last) with
       | .ok items => .done items
       | .error e => .err e, n + 1) := by
  rw [reassemble, decode_single 13 last (by decide)]
  show (match decode none (buffer ++ last) with | .error e => _ | .ok final => _) = _
  cases decode none (buffer ++ last) <;> rfl

theorem rawEncode_cons (t v raw) : rawEncode ((t, v) :: raw) = t :: UInt8.ofNat v.length :: (v ++ rawEncode raw) := by
  simp [rawEncode]

theorem canonical_rawEncode : ∀ raw : List (UInt8 × Bytes), (∀ r ∈ raw, r.2.length ≤ 255) → Canonical raw (rawEncode raw)
  | [], _ => Canonical.nil
  | (t, v) :: raw, h => rawEncode_cons t v raw ▸ Canonical.cons t v _ raw _ (Frags.last v (h (t, v) List.mem_cons_self))
      (canonical_rawEncode raw fun r hr => h r (List.mem_cons_of_mem _ hr))

theorem dec_raw (bs : Bytes) (acc : Items) (sk : Bool) :
    (∃ raw, bs = rawEncode raw ∧ ∀ r ∈ raw, r.2.length ≤ 255) ∨ dec none bs acc sk = .error .parse := by
  fun_induction dec none bs acc sk
  next => exact Or.inl ⟨[], rfl, nofun⟩
  next h => cases h -- skipped
  next => exact Or.inr rfl -- no length
  next h _ => cases h -- skipped
  next => exact Or.inr rfl -- short value
  next k len rest _ _ _ hlen ih =>
    refine ih.imp_left fun ⟨raw, hbs, hall⟩ => ⟨(k, rest.take len.toNat) :: raw, ?_, ?_⟩
    · rw [rawEncode_cons, Decidable.not_not.mp hlen, UInt8.ofNat_toNat, ← hbs, List.take_append_drop]
    · intro r hr
      rcases List.mem_cons.mp hr with rfl | hr
      · exact Nat.le_trans (List.length_take_le _ _) (Nat.le_of_lt_succ len.toNat_lt)
      · exact hall r hr

end HapVerif.Tlv
