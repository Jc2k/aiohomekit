import HapVerif.Proofs.ReconnectSilent

/-! # C11 - a pairing never holds more than one open connection and leaks none

Over the supervisor automaton `Reconnect`, tied to `controller/ip/connection.py` by `harness/c11.py`.
`open_` is the accessory's view: the connections it still sees open. -/

namespace HapVerif.Reconnect

/-- every reachable state satisfies the invariant bundle -/
theorem C11_invariant (hosts : List Host) (evs : List Ev) : Inv (run (init hosts) evs) :=
  (run_sup hosts evs).inv

/-- at most one connection is open, and it is the one the pairing considers current -/
theorem C11_at_most_one (hosts : List Host) (evs : List Ev) :
    (run (init hosts) evs).open_.length ≤ 1 ∧
    ∀ c ∈ (run (init hosts) evs).open_, (run (init hosts) evs).current = some c := by
  have h := (run_sup hosts evs).opn
  exact ⟨by rw [h]; cases (run (init hosts) evs).current <;> simp, fun c hc => (run_sup hosts evs).mem_open hc⟩

/-- a connection is open only while its pair-verify is in flight or after the secure session was established:
    whenever the connector is backing off, connecting, or has ended with a failure, nothing is open -/
theorem C11_failed_setup_closed (hosts : List Host) (evs : List Ev) (c : ConnId)
    (hc : c ∈ (run (init hosts) evs).open_) :
    ((run (init hosts) evs).conn = .doneOk ∧ (run (init hosts) evs).secure = true) ∨
    ∃ t, (run (init hosts) evs).conn = .verifyWait t c :=
  (run_sup hosts evs).holder ((run_sup hosts evs).mem_open hc)

/-- the verdict of a failed pair-verify (wrong pairing id, authentication error, any other error) leaves the
    connection closed - in the same step, whatever the state -/
theorem C11_verdict_drops (s : St) (v : Ver) (hopn : s.open_ = s.current.toList)
    (hv : v = .wrongId ∨ v = .auth ∨ v = .fail) :
    (verifyVerdict s v).1.current = none ∧ (verifyVerdict s v).1.open_ = [] := by
  have hd : ∀ s' : St, s'.open_ = s'.current.toList → (dropTransport s').current = none ∧ (dropTransport s').open_ = [] :=
    fun s' h => ⟨congrArg St.current (dropTransport_eq s'), dropTransport_open s' h⟩
  rcases hv with rfl | rfl | rfl
  · simp only [verifyVerdict]
    split
    · exact hd { s with failed := _ } hopn
    · exact hd { s with failed := _ } hopn
  · exact hd s hopn
  · exact hd s hopn

/-- `close()` (and `shutdown()`) from any reachable state - whatever the connector is doing, including after it
    ended with an authentication failure - leaves no connection open, no current connection, no running connector -/
theorem C11_close_total (hosts : List Host) (evs : List Ev) (e : Ev) (he : e = .close ∨ e = .shutdown) :
    (step (run (init hosts) evs) e).open_ = [] ∧ (step (run (init hosts) evs) e).current = none ∧
    (step (run (init hosts) evs) e).conn.live = false ∧ (step (run (init hosts) evs) e).liveTasks = 0 := by
  have hc : (step (run (init hosts) evs) e).closing = true := by
    rcases he with rfl | rfl <;> exact closeConn_closing _
  have h := step_sup (run_sup hosts evs) e
  exact ⟨h.closing_open hc, h.closing_current hc, h.closing_dead hc, (h.dead (h.closing_dead hc)).1⟩

/-- ... and nothing opens afterwards either: after `close()`, whatever was in flight when it was called, time
    passing, the accessory closing connections, cancelled callers and repeated closes never produce an open
    connection - only a new request for the connection (ensure / zeroconf) can -/
theorem C11_nothing_opens_after_close (hosts : List Host) (evs more : List Ev) (e : Ev)
    (he : e = .close ∨ e = .shutdown) (hm : ∀ x ∈ more, x.isTrigger = false) :
    (run (step (run (init hosts) evs) e) more).open_ = [] := by
  have hc : (step (run (init hosts) evs) e).closing = true := by
    rcases he with rfl | rfl <;> exact closeConn_closing _
  have h := step_sup (run_sup hosts evs) e
  exact (run_sup_from h more).closing_open ((silent_run more h hc (.inl hm)).keepsClosing hc)

/-- after `shutdown()` no event whatsoever - zeroconf updates and new callers included - opens a connection -/
theorem C11_nothing_opens_after_shutdown (hosts : List Host) (evs more : List Ev) :
    (run (step (run (init hosts) evs) .shutdown) more).open_ = [] := by
  have h := step_sup (run_sup hosts evs) .shutdown
  exact (run_sup_from h more).closing_open
    ((silent_run more h (closeConn_closing _) (.inr (closeConn_shutdown _))).keepsClosing (closeConn_closing _))

/-- the loss of a connection that is not the current one disturbs nothing: in a reachable state such a
    connection is not even open any more, and the step is the identity -/
theorem C11_stale_loss_harmless (hosts : List Host) (evs : List Ev) (c : ConnId)
    (hc : (run (init hosts) evs).current ≠ some c) :
    step (run (init hosts) evs) (.drop c) = run (init hosts) evs :=
  drop_stale (run_sup hosts evs).toBase hc

/-- even without the invariant, the transition for a stale loss never touches the current connection,
    the connector or the waiters (the repaired `connection_lost` guard) -/
theorem C11_stale_loss_frame (s : St) (c : ConnId) (hc : s.current ≠ some c) :
    (step s (.drop c)).current = s.current ∧ (step s (.drop c)).conn = s.conn ∧
    (step s (.drop c)).waiters = s.waiters ∧ (step s (.drop c)).obs = s.obs := by
  simp only [step]
  split
  · simp
  · simp

/-- non-vacuity: a wrong-pairing-id answer followed by a successful attempt, then close -/
example :
    let s := run (init [1, 2]) [.pushVer .wrongId, .ensure 1 none]
    s.open_ = [1] ∧ s.current = some 1 ∧ s.conn = .doneOk ∧ (step s .close).open_ = [] := by decide

end HapVerif.Reconnect
