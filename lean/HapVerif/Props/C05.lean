import HapVerif.Proofs.SecureFrame
import HapVerif.Gen.Ip
import HapVerif.Props.C07

/-! # C05 - encrypted IP session framing is exact outbound and segmentation-proof inbound -/

namespace HapVerif.C05
open HapVerif HapVerif.SecureFrame HapVerif.Spec.Frames

/-- an AEAD pair in which opening what was sealed (same counter, same AAD) returns the plaintext and
    the sealed block is 16 bytes longer than the plaintext -/
structure Aead (sl : Sealer) (op : Opener) : Prop where
  open_seal : ∀ c a p, op c a (sl c a p) = some p
  seal_len : ∀ c a p, (sl c a p).length = p.length + 16

/-- **Inbound, segmentation**: for every opener (every key and every ciphertext stream, genuine or
    corrupted), every state and every way of cutting the stream into one or more reads, the
    delivered plaintext blocks, the final buffer and counter, and whether/where decryption failed
    are those of a single read of the whole stream. -/
theorem C05_inbound_segmentation (op : Opener) : ∀ (cs : List Bytes) (c : Bytes) (s : St),
    recvAll op s (c :: cs) [] = recv op s (c ++ cs.flatten) :=
  fun cs c s => recvAll_eq_recv op cs c s []

example : recvAll (fun _ _ b => some b) {} [[3, 0, 1], [2, 3] ++ List.replicate 16 0 ++ [0]] [] =
    ([[1, 2, 3] ++ List.replicate 16 0], some ⟨[0], 1⟩) := by decide +kernel

/-- **Inbound, correctness**: whatever plaintext blocks a conformant accessory seals (any sizes
    below 64 KiB - HAP uses 1..1024), starting from any counter, and however the resulting byte
    stream is split into reads, the controller delivers exactly those blocks, in order, ends with
    an empty buffer and has advanced its counter by the number of frames. -/
theorem C05_inbound_correct (sl : Sealer) (op : Opener) (h : Aead sl op) (bs : List Bytes) (c : Nat)
    (hb : ∀ b ∈ bs, b.length < 65536) (r : Bytes) (rs : List Bytes)
    (hcut : r ++ rs.flatten = writeFrames sl c bs) :
    recvAll op ⟨[], c⟩ (r :: rs) [] = (bs, some ⟨[], c + bs.length⟩) := by
  rw [C05_inbound_segmentation, hcut, recv_eq, List.nil_append, ← List.append_nil (writeFrames sl c bs),
    run_frames sl op h.open_seal h.seal_len bs c [] hb]
  simp only [seq2, run_nil, List.append_nil]

/-- **Inbound, authentication failure**: if the frame that follows any number of genuine frames
    does not open under the expected counter - its length prefix, ciphertext or tag was altered -
    then exactly the blocks before it are delivered, nothing from it or from anything after it is,
    and the session ends (`none`), again for every split of the stream into reads. -/
theorem C05_bad_frame (sl : Sealer) (op : Opener) (h : Aead sl op) (good : List Bytes) (c : Nat)
    (hb : ∀ b ∈ good, b.length < 65536) (n : Nat) (ct rest : Bytes) (hn : n < 65536)
    (hct : ct.length = n + 16) (hbad : op (c + good.length) (natToLe 2 n) ct = none)
    (r : Bytes) (rs : List Bytes)
    (hcut : r ++ rs.flatten = writeFrames sl c good ++ (natToLe 2 n ++ ct ++ rest)) :
    recvAll op ⟨[], c⟩ (r :: rs) [] = (good, none) := by
  rw [C05_inbound_segmentation, hcut, recv_eq, List.nil_append, run_frames sl op h.open_seal h.seal_len good c _ hb]
  simp only [seq2, run_frame op _ _ ct rest n (natToLe_length 2 n) (le16_natToLe n hn) hct, hbad, List.append_nil]

/-- **Only authenticated plaintext is delivered**: every block handed to the HTTP layer is a value
    the AEAD opener returned - in any state, for any input bytes. -/
theorem C05_only_authenticated (op : Opener) (P : Bytes → Prop) (hP : ∀ c a x p, op c a x = some p → P p)
    (s : St) (data : Bytes) : ∀ p ∈ (recv op s data).1, P p := by
  rw [recv_eq]
  generalize (⟨s.buf ++ data, s.ctr⟩ : St) = s
  fun_induction run op s
  next => nofun
  next => nofun
  next s _ p hop ih =>
    intro q hq
    rcases List.mem_cons.mp hq with rfl | hq
    · exact hP _ _ _ _ hop
    · exact ih q hq

/-- **Outbound**: the list handed to the transport, read by a conformant accessory from the same
    counter, decrypts to chunks whose concatenation is exactly the request; every chunk is
    non-empty and at most 1024 bytes, every chunk but the last is exactly 1024 bytes, and the
    controller's counter has advanced by the number of frames. -/
theorem C05_outbound (sl : Sealer) (op : Opener) (h : Aead sl op) : ∀ (fuel : Nat) (payload : Bytes) (c : Nat) (rf : Nat),
    payload.length ≤ fuel → payload.length ≤ rf →
    ∃ chunks, readFrames op rf c (sendAux sl fuel c payload).1.flatten = some chunks ∧
      chunks.flatten = payload ∧ (∀ ch ∈ chunks, 0 < ch.length ∧ ch.length ≤ 1024) ∧
      (∀ ch ∈ chunks.dropLast, ch.length = 1024) ∧ (sendAux sl fuel c payload).2 = c + chunks.length := by
  intro fuel payload c rf hf hrf
  obtain ⟨s1, s2⟩ := sendAux_eq sl fuel c payload hf
  refine ⟨cut payload, ?_, cut_flatten payload, cut_size payload, cut_full payload, s2⟩
  rw [s1, readFrames_writeFrames sl op h.open_seal h.seal_len _ c rf (fun b hb => (cut_size payload b hb).2)
    (Nat.le_trans (cut_length_le payload) hrf)]

/-- the same statement for `send_bytes` as called (fuel = payload length) -/
theorem C05_outbound_send (sl : Sealer) (op : Opener) (h : Aead sl op) (payload : Bytes) (c : Nat) :
    ∃ chunks, readFrames op payload.length c (send sl c payload).1.flatten = some chunks ∧
      chunks.flatten = payload ∧ (∀ ch ∈ chunks, 0 < ch.length ∧ ch.length ≤ 1024) ∧
      (∀ ch ∈ chunks.dropLast, ch.length = 1024) ∧ (send sl c payload).2 = c + chunks.length :=
  C05_outbound sl op h _ payload c _ (Nat.le_refl _) (Nat.le_refl _)

/-- non-vacuity: an (insecure) AEAD instance satisfying the laws exists -/
example : Aead (fun _ _ p => p ++ List.replicate 16 0) (fun _ _ x => some (x.take (x.length - 16))) :=
  ⟨by intro c a p; simp, by intro c a p; simp⟩

/-- tie to the source constants (regenerated on every run from `ip/connection.py`) -/
theorem C05_gen_tie : Gen.Ip.secureChunk = 1024 ∧ Gen.Ip.TAG_LENGTH = 16 ∧ Gen.Ip.lenFormat = "H" ∧
    Gen.Ip.nonceFormat = "<LQ" := ⟨rfl, rfl, rfl, rfl⟩

/-! ## The secure session end to end: TCP reads -> frames -> HTTP/EVENT messages

`SecureHomeKitProtocol.data_received` decrypts the frames that are complete and hands every decrypted block to
`InsecureHomeKitProtocol.data_received` (the HTTP parser of C07), one call per block.  Composition of the two
models: -/

open HapVerif.Http in
/-- what reaches the application from a sequence of TCP reads on a secure session: the decrypted blocks are fed to
    the HTTP parser in order, one call per block; the result is the messages completed, the parser state (or its
    error) and the frame state (`none` = a frame failed authentication and the session ended) -/
def secureHttp (op : Opener) (s : St) (p : Http.P) (reads : List Bytes) :
    (List Http.Msg × Except Http.Err Http.P) × Option St :=
  let r := recvAll op s reads []
  (Http.feedAll p r.1, r.2)

open HapVerif.Http in
/-- **End to end**: whatever HTTP responses and EVENT messages the accessory writes (any of the three framings, any
    header spelling), however it cuts their bytes into encrypted blocks (any sizes - block boundaries anywhere
    inside status lines, headers, chunk sizes, bodies), and however TCP cuts the ciphertext stream into reads
    (inside length prefixes, ciphertexts, tags), the application receives exactly the messages written, in order,
    byte-exact; the HTTP parser is left fresh, nothing is left in the frame buffer and the counter has advanced by
    the number of blocks. -/
theorem C05_secure_http_end_to_end (sl : Sealer) (op : Opener) (h : Aead sl op)
    (ms : List (WMsg × Nat)) (hg : ∀ x ∈ ms, Good x.1 x.2)
    (blocks : List Bytes) (hblocks : blocks.flatten = writeAll ms) (hb : ∀ b ∈ blocks, b.length < 65536)
    (c : Nat) (r : Bytes) (rs : List Bytes) (hcut : r ++ rs.flatten = writeFrames sl c blocks) :
    secureHttp op ⟨[], c⟩ {} (r :: rs) =
      ((ms.map (fun x => x.1.msg x.2), .ok {}), some ⟨[], c + blocks.length⟩) := by
  unfold secureHttp
  rw [C05_inbound_correct sl op h blocks c hb r rs hcut]
  simp only [C07.C07_written_stream_any_segmentation ms hg blocks hblocks]

open HapVerif.Http in
/-- and if a frame in the middle fails authentication, the application has received exactly the messages that the
    genuine blocks before it complete - nothing from the bad frame or after it - and the session ends -/
theorem C05_secure_http_bad_frame (sl : Sealer) (op : Opener) (h : Aead sl op) (good : List Bytes) (c : Nat)
    (hb : ∀ b ∈ good, b.length < 65536) (n : Nat) (ct rest : Bytes) (hn : n < 65536)
    (hct : ct.length = n + 16) (hbad : op (c + good.length) (natToLe 2 n) ct = none)
    (r : Bytes) (rs : List Bytes)
    (hcut : r ++ rs.flatten = writeFrames sl c good ++ (natToLe 2 n ++ ct ++ rest)) (p : Http.P) :
    secureHttp op ⟨[], c⟩ p (r :: rs) = (Http.feedAll p good, none) := by
  unfold secureHttp
  rw [C05_bad_frame sl op h good c hb n ct rest hn hct hbad r rs hcut]

end HapVerif.C05
