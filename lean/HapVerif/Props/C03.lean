import HapVerif.Proofs.PairSetup
import HapVerif.Proofs.CryptoIdeal
import HapVerif.Gen.Protocol

/-! # C03 - pair-setup returns pairing data only after a fully authenticated exchange -/

namespace HapVerif.C03
open HapVerif HapVerif.Tlv HapVerif.Protocol HapVerif.PairSetup

/-- **Return implies the checks** (any crypto): a record is returned only if M6 opened under the
    exchange key `HKDF(K, "Pair-Setup-Encrypt-…")` with nonce "PS-Msg06", and the long-term key the
    accessory presents verifies the signature over `AccessoryX ‖ id ‖ LTPK`; the returned
    identifier and key are exactly those authenticated bytes. -/
theorem C03_return_implies_checks (C : Crypto) (K iosId ltsk : Bytes) (m6 : Items) (r : Record)
    (h : processM6 C K iosId ltsk m6 = .ok r) :
    ∃ enc plain d sig,
      lookup 5 m6 = some enc ∧
      C.aeadOpen (encKey C K) (PairSetup.noncePad ++ str "PS-Msg06") [] enc = some plain ∧
      decode none plain = .ok d ∧ lookup 10 d = some sig ∧ lookup 1 d = some r.accessoryId ∧
      lookup 3 d = some r.accessoryLTPK ∧ r.accessoryLTPK.length = 32 ∧
      C.edVerify r.accessoryLTPK (accX C K ++ r.accessoryId ++ r.accessoryLTPK) sig = true := by
  obtain ⟨enc, plain, d, sig, h⟩ := (processM6_ok_iff ..).mp h
  exact ⟨enc, plain, d, sig, h.box, h.opened, h.decoded, h.signature, h.ident, h.ltpk, h.ltpkLen, h.verified⟩

/-- **The accessory must have proven the code**: part 2 returns only if the SRP client accepted
    the accessory's proof in M4 -/
theorem C03_return_requires_proof (C : Crypto) (s : SrpView) (iosId ltsk : Bytes) (m4 m6 : Items) (r : Record)
    (h : part2 C s iosId ltsk m4 m6 = .ok r) :
    (∃ proof, lookup 4 m4 = some proof ∧ s.accepts proof = true) ∧ processM6 C s.K iosId ltsk m6 = .ok r :=
  have ⟨h4, h6⟩ := (part2_ok_iff ..).mp h
  ⟨((processM4_ok_iff ..).mp h4).2, h6⟩

/-- **Self-consistent record**: the controller's public key in the record is the public key of
    the private key in the record, and the identifier is the one it was asked to use -/
theorem C03_record_consistent (C : Crypto) (K iosId ltsk : Bytes) (m6 : Items) (r : Record)
    (h : processM6 C K iosId ltsk m6 = .ok r) :
    r.iosLTPK = C.edPub r.iosLTSK ∧ r.iosLTSK = ltsk ∧ r.iosId = iosId := by
  obtain ⟨_, _, _, _, h⟩ := (processM6_ok_iff ..).mp h
  exact ⟨h.iosLTSK ▸ h.iosLTPK, h.iosLTSK, h.iosId⟩

open Spec.SetupAccessory in
/-- **The controller's M5 is accepted by a conformant accessory**, which learns exactly the
    controller's identifier and public key - for every session key, identifier and key pair. -/
theorem C03_m5_accepted (C : Crypto) (L : C.Laws) (K iosId ltsk : Bytes) :
    acceptM5 C K (m5 C K iosId ltsk) = some (iosId, C.edPub ltsk) := by
  -- the lookups evaluate; what is left are the two laws
  simp [acceptM5, m5, lookup, sessionKey_eq_encKey, specNoncePad_eq, L.open_seal, decode_idKeySig, iosDeviceX_eq_iosX,
    L.verify_sign]

open Spec.SetupAccessory in
/-- **Honest M6**: the final message of a conformant accessory is accepted and the record carries
    exactly the accessory's identifier and long-term public key. -/
theorem C03_honest_m6 (C : Crypto) (L : C.Laws) (K iosId ltsk accId accLTSK : Bytes) (hid : asciiOnly accId = true) :
    processM6 C K iosId ltsk (m6 C K accId accLTSK) = .ok ⟨accId, C.edPub accLTSK, iosId, ltsk, C.edPub ltsk⟩ :=
  (processM6_ok_iff ..).mpr ⟨_, _, _, _,
    { state := rfl, box := rfl, opened := L.open_seal .., decoded := decode_idKeySig .., signature := rfl, ident := rfl, ltpk := rfl,
      ltpkLen := L.edPubLen _, verified := L.verify_sign .., ascii := hid, iosId := rfl, iosLTSK := rfl, iosLTPK := rfl }⟩

/-- **The signature binds identifier and key**: whenever a record is returned and the presented
    long-term key has a secret key `sk`, the signature inside M6 is the genuine signature of `sk`
    over `AccessoryX ‖ returned id ‖ returned key` - a signature over another identifier or key, or
    by another key, is never accepted. -/
theorem C03_signature_binds (C : Crypto) (L : C.Laws) (K iosId ltsk : Bytes) (m6 : Items) (r : Record) (sk : Bytes)
    (h : processM6 C K iosId ltsk m6 = .ok r) (hsk : r.accessoryLTPK = C.edPub sk) :
    ∃ enc plain d, lookup 5 m6 = some enc ∧ C.aeadOpen (encKey C K) (PairSetup.noncePad ++ str "PS-Msg06") [] enc = some plain ∧
      decode none plain = .ok d ∧
      lookup 10 d = some (C.edSign sk (accX C K ++ r.accessoryId ++ r.accessoryLTPK)) := by
  obtain ⟨enc, plain, d, sig, h⟩ := (processM6_ok_iff ..).mp h
  have hver := h.verified
  rw [hsk] at hver
  refine ⟨enc, plain, d, h.box, h.opened, h.decoded, ?_⟩
  rw [h.signature, L.verify_sound _ _ _ hver, hsk]

/-- non-vacuity of the laws -/
example : Crypto.Laws Ideal.ideal := Ideal.ideal_laws

/-- tie to the labels and nonces in the source -/
theorem C03_gen_tie :
    Gen.Protocol.labels_perform_pair_setup_part2 = [["Pair-Setup-Controller-Sign-Salt", "Pair-Setup-Controller-Sign-Info"],
      ["Pair-Setup-Encrypt-Salt", "Pair-Setup-Encrypt-Info"], ["Pair-Setup-Accessory-Sign-Salt", "Pair-Setup-Accessory-Sign-Info"]] ∧
    Gen.Protocol.nonces_perform_pair_setup_part2 = ["PS-Msg05", "PS-Msg06"] := ⟨rfl, rfl⟩

end HapVerif.C03
