import HapVerif.Proofs.Srp
import HapVerif.Spec.SrpServer
import HapVerif.Proofs.Sha512

/-! # C02 - SRP-6a client values equal those of a spec-conformant accessory -/

namespace HapVerif.C02
open HapVerif HapVerif.Srp HapVerif.Spec.SrpServer

/-- the group is the RFC 5054 3072-bit group with generator 5; keys are padded to 384 bytes, the
    salt to 16 -/
theorem C02_group_is_rfc5054 : Gen.Srp.N = N3072 ∧ Gen.Srp.g = 5 ∧ Gen.Srp.keyLen = 384 ∧ Gen.Srp.saltLen = 16 ∧
    N3072 < 256 ^ 384 ∧ 256 ^ 383 < N3072 := by decide +kernel

/-- the hard-coded multiplier is `k = H(PAD(N) ‖ PAD(g))` under SHA-512 (evaluated in the kernel
    on the executable SHA-512; the unpadded `H(N ‖ g)` would be a different number) -/
theorem C02_k_is_H_N_g :
    Gen.Srp.k = beToNat (RealCrypto.sha512 (natToBe 384 Gen.Srp.N ++ natToBe 384 Gen.Srp.g)) := by
  rw [RealCrypto.sha512, RealCrypto.Sha512.hash, RealCrypto.Sha512.compress_eq]
  decide +kernel

/-- **Padding**: for every value below `256^len` - whatever its number of leading zero bytes -
    `pad_left(to_byte_array(n), len)` has length `len`, reads back as `n`, and is the `PAD` of the
    specification. -/
theorem C02_padding (len n : Nat) (h : n < 256 ^ len) :
    (padLeft (toByteArray n) len).length = len ∧ Srp.os2ip (padLeft (toByteArray n) len) = n ∧
      padLeft (toByteArray n) len = PAD len n := by
  rw [padLeft_eq_PAD len n h]
  exact ⟨natToBe_length _ _, natToBe_val _ _ h, rfl⟩

/-- every salt of the expected length - all-zero and leading-zero salts included - survives the
    integer round trip of `set_salt` byte for byte -/
theorem C02_salt (s : Bytes) : padLeft (toByteArray (Srp.os2ip s)) s.length = s := salt_roundtrip s

example : padLeft (toByteArray (Srp.os2ip (List.replicate 16 0))) 16 = List.replicate 16 0 := C02_salt _

/-- hypotheses on the group parameters the value theorems need (met by the HAP group) -/
structure GroupOK (G : Group) : Prop where
  Npos : 0 < G.N
  fits : G.N ≤ 256 ^ G.keyLen

theorem hapGroup_ok : GroupOK hapGroup := ⟨by decide +kernel, by decide +kernel⟩

theorem GroupOK.mod_lt {G : Group} (hG : GroupOK G) (m : Nat) : m % G.N < 256 ^ G.keyLen :=
  lt_of_lt_of_le (Nat.mod_lt _ hG.Npos) hG.fits

/-- **Shared secret**: for every hash function, identity, setup code, salt of the right length and
    pair of ephemeral secrets, the client's `S` equals the `S` of the conformant accessory of the
    same exchange. -/
theorem C02_shared_secret_agree (H : Bytes → Bytes) (G : Group) (hG : GroupOK G) (I P salt : Bytes) (a b : Nat)
    (hsalt : salt.length = G.saltLen) :
    let c0 := client H G I P salt [] a            -- only its A_b is used to build the server
    let s := server H G.N G.g G.k G.keyLen (hGroup H G) I P salt b c0.A_b
    (client H G I P salt s.Bb a).S = s.S := by
  intro c0 s
  have hA : c0.A_b = PAD G.keyLen (G.g ^ a % G.N) := client_A_b H G I P salt [] a (hG.mod_lt _)
  apply Int.natCast_inj.mp
  -- once the paddings round-trip, the two sides are the two sides of `srp_agree`
  simp only [client, s, server, hA, Srp.os2ip, Spec.SrpServer.os2ip, PAD, natToBe_val _ _ (hG.mod_lt _),
    hsalt ▸ salt_roundtrip salt, padLeft_eq_PAD _ _ (hG.mod_lt _), powMod_eq, sharedSecret_cast _ _ _ _ _ _ _ hG.Npos]
  push_cast
  exact srp_agree (Int.mod_modEq ..) (Int.mod_modEq ..) (Int.mod_modEq ..) (Int.mod_modEq ..) (Int.mod_modEq ..)

/-- **Accepts iff correct**: the client accepts a server proof exactly when it denotes the same
    integer as `H(A ‖ M1 ‖ K)` (so a proof with stripped or added leading zero bytes is tolerated,
    any other bit pattern is rejected) -/
theorem C02_accepts_iff_correct (c : Client) (M : Bytes) : accepts c M = true ↔ Srp.os2ip M = Srp.os2ip c.expectM2 := by
  unfold accepts
  rw [beq_iff_eq]
  exact eq_comm

/-- **Values equal**: the session key `K`, the client proof `M1` and the expected server proof are
    byte for byte those of the conformant accessory, and the client's public value is `PAD(g^a)` -
    for any hash function, any code, any 16-byte salt and any secrets (every leading-zero case
    included, since `PAD` is total on values below N). -/
theorem C02_values_equal (H : Bytes → Bytes) (G : Group) (hG : GroupOK G) (I P salt : Bytes) (a b : Nat)
    (hsalt : salt.length = G.saltLen) :
    let c0 := client H G I P salt [] a
    let s := server H G.N G.g G.k G.keyLen (hGroup H G) I P salt b c0.A_b
    let c := client H G I P salt s.Bb a
    c.A_b = PAD G.keyLen (G.g ^ a % G.N) ∧ c.K = s.K ∧ c.M1 = s.M1 ∧ c.expectM2 = s.M2 ∧ accepts c s.M2 = true := by
  intro c0 s c
  have hS : c.S = s.S := C02_shared_secret_agree H G hG I P salt a b hsalt
  have hA (Bb : Bytes) : (client H G I P salt Bb a).A_b = PAD G.keyLen (G.g ^ a % G.N) :=
    client_A_b H G I P salt Bb a (hG.mod_lt _)
  have hK : c.K = s.K := by
    show H (padLeft (toByteArray c.S) G.keyLen) = H (PAD G.keyLen s.S)
    rw [hS]
    exact congrArg H (padLeft_eq_PAD _ _ (hG.mod_lt _))
  have hM1 : c.M1 = s.M1 := by
    show H (hGroup H G ++ H I ++ c.salt_b ++ c.A_b ++ s.Bb ++ c.K) = H (hGroup H G ++ H I ++ salt ++ c0.A_b ++ s.Bb ++ s.K)
    rw [hK, hA, hA, show c.salt_b = salt from (hsalt ▸ salt_roundtrip salt :)]
  have hM2 : c.expectM2 = s.M2 := by
    show H (c.A_b ++ c.M1 ++ c.K) = H (c0.A_b ++ s.M1 ++ s.K)
    rw [hK, hM1, hA, hA]
  exact ⟨hA _, hK, hM1, hM2, by rw [C02_accepts_iff_correct, hM2]⟩

/-- a proof of the right length is accepted iff it is bit-for-bit the right one -/
theorem C02_accepts_same_length (c : Client) (M : Bytes) (hl : M.length = c.expectM2.length) :
    accepts c M = true ↔ M = c.expectM2 := by
  rw [C02_accepts_iff_correct]
  exact ⟨beToNat_inj _ _ hl, congrArg _⟩

/-- **Wrong code (partial)**: with an injective hash, a client whose session key differs from the
    accessory's (which is what a wrong setup code produces, up to the SRP hardness assumption -
    NOT proved) sends a proof the accessory does not accept.  The step "wrong code ⇒ different
    S" is the cryptographic assumption; it is supported only by the wrong-code stream of the
    correspondence run. -/
theorem C02_wrong_code_partial (H : Bytes → Bytes) (hinj : Function.Injective H) (pre K1 K2 : Bytes) (h : K1 ≠ K2) :
    H (pre ++ K1) ≠ H (pre ++ K2) := by
  intro e
  exact h (List.append_cancel_left (hinj e))

/-- **The model's shared-secret formula is the source's** (`C02_gen_tie`): the assignments the translator lifts out of
    `SrpClient.get_shared_secret` on every run (`Gen.Srp.sharedSecretStmts`, `sharedSecretRet`), interpreted over Python's
    integers for ANY attribute values of the client object (B, k, g, x, n > 0, a) and any scrambling parameter u, compute
    exactly `Srp.sharedSecret` - the function `C02_shared_secret_agree` is about.  In particular the exponent `a + u*x` is
    used unreduced, for every a.  The same for the public key `pow(g, a, n)`. -/
theorem C02_gen_tie (B k g x n a u : Nat) :
    SrpGen.eval (SrpGen.exec (SrpGen.selfEnv B k g x n a) (SrpGen.callEnv u) Gen.Srp.sharedSecretStmts) (SrpGen.callEnv u)
      Gen.Srp.sharedSecretRet = (Srp.sharedSecret B k g x n a u : Nat) ∧
    SrpGen.eval (SrpGen.selfEnv B k g x n a) (SrpGen.callEnv u) Gen.Srp.publicKey = (Srp.powMod g a n : Nat) := by
  have hpm (b e m : Nat) : SrpGen.pyPowMod b e m = (Srp.powMod b e m : Nat) := by
    rw [SrpGen.pyPowMod, ← Int.natCast_mod, Int.toNat_natCast, Int.toNat_natCast, Int.toNat_natCast, powMod_eq, powMod_eq,
      ← Nat.pow_mod]
  constructor
  · -- running the statements gives the nested expression they spell out
    simp only [Gen.Srp.sharedSecretStmts, Gen.Srp.sharedSecretRet, SrpGen.exec_cons, SrpGen.exec_nil, SrpGen.eval,
      Function.update_apply, SrpGen.selfEnv, SrpGen.callEnv, String.reduceEq, ↓reduceIte]
    show SrpGen.pyPowMod ((B : Int) - (k : Int) * SrpGen.pyPowMod g x n) ((a : Int) + (u : Int) * (x : Int)) n = _
    rw [hpm g x n, Srp.sharedSecret, SrpGen.pyPowMod, ← Int.natCast_mul u x, ← Int.natCast_add, Int.toNat_natCast,
      Int.toNat_natCast]
  · simp only [Gen.Srp.publicKey, SrpGen.eval, SrpGen.selfEnv, String.reduceEq, ↓reduceIte]
    exact hpm g a n

/-- non-vacuity of the tie, on a toy group -/
example : SrpGen.eval (SrpGen.exec (SrpGen.selfEnv 9 3 5 4 23 22) (SrpGen.callEnv 2) Gen.Srp.sharedSecretStmts) (SrpGen.callEnv 2)
    Gen.Srp.sharedSecretRet = (Srp.sharedSecret 9 3 5 4 23 22 2 : Nat) := (C02_gen_tie 9 3 5 4 23 22 2).1

end HapVerif.C02
