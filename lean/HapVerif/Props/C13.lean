import HapVerif.Proofs.CharList

/-! # C13 - reads and writes report per-characteristic outcomes faithfully -/

namespace HapVerif.C13
open HapVerif HapVerif.CharList

theorem C13_status_sign (s : Int) : toStatusCode s = toStatusCode (-s) := by
  unfold toStatusCode
  simp [Int.natAbs_neg]

/-- the normalised code is SUCCESS exactly for status 0 - a positive-signed or unknown code is
    never taken for success -/
theorem C13_status_zero_iff (s : Int) : (toStatusCode s).1 = 0 ↔ s = 0 := by
  constructor
  · intro h
    unfold toStatusCode at h
    cases hf : Gen.Status.hap.find? (fun r => r.2.1 = -(s.natAbs : Int)) with
    | some r =>
      -- a row that is found carries the code `-|s|`
      have hr : r.2.1 = -(s.natAbs : Int) := by simpa using List.find?_some hf
      simp only [hf] at h
      omega
    | none =>
      -- otherwise the answer is the UNKNOWN row, whose code is not 0
      simp only [hf] at h
      exact absurd h (by decide +kernel)
  · rintro rfl
    decide +kernel

/-- every defined HAP status code is found under either sign -/
theorem C13_status_table : ∀ r ∈ Gen.Status.hap, r.1 ≠ "UNKNOWN" →
    toStatusCode r.2.1 = (r.2.1, r.2.2) ∧ toStatusCode (-r.2.1) = (r.2.1, r.2.2) := by
  intro r hr _
  -- the codes are distinct and none is positive, so each row is found under its own code
  have hnd : (Gen.Status.hap.map (·.2.1)).Nodup := by decide +kernel
  have hneg : ∀ r ∈ Gen.Status.hap, r.2.1 ≤ 0 := by decide +kernel
  have h : toStatusCode r.2.1 = (r.2.1, r.2.2) := by
    unfold toStatusCode
    have hle := hneg r hr
    rw [show -((r.2.1.natAbs : Int)) = r.2.1 by omega]
    simp only [find?_eq_some_of_nodup_map (·.2.1) hnd hr]
  exact ⟨h, C13_status_sign r.2.1 ▸ h⟩

/-- an entry "mentions" key `k` when it is an object whose aid/iid are the integers of `k` -/
def mentions (c : J) (k : Key) : Bool :=
  match c with
  | .obj o => match (oget o "aid").bind asInt, (oget o "iid").bind asInt with
    | some a, some i => (a, i) = k
    | _, _ => false
  | _ => false

/-- what a mentioned entry is turned into: ids removed, status 0 removed, description added to a
    non-zero status -/
def processed (c : J) : Obj :=
  match c with
  | .obj o =>
    let o := odel (odel o "aid") "iid"
    match (oget o "status").bind asInt with
    | some 0 => odel o "status"
    | some s => oset o "description" (.str (describe s))
    | none => o
  | _ => []

theorem rget_formatEntry (tmp : Result) (c : J) (k : Key) :
    rget (formatEntry tmp c) k = if mentions c k then some (processed c) else rget tmp k := by
  cases c with
  | obj o =>
    cases ha : (oget o "aid").bind asInt with
    | none => simp only [formatEntry, mentions, ha, Bool.false_eq_true, if_false]
    | some a =>
      cases hi : (oget o "iid").bind asInt with
      | none => simp only [formatEntry, mentions, ha, hi, Bool.false_eq_true, if_false]
      | some i =>
        simp only [formatEntry, mentions, ha, hi, rget_rset, decide_eq_true_eq]
        rfl
  | _ => rfl

theorem rget_foldl_formatEntry_of_not_mentioned (k : Key) (l : List J) (tmp : Result)
    (h : ∀ c ∈ l, mentions c k = false) : rget (l.foldl formatEntry tmp) k = rget tmp k :=
  List.foldlRecOn l formatEntry (motive := fun t => rget t k = rget tmp k) rfl fun t ht c hc => by
    rw [rget_formatEntry, h c hc, if_neg Bool.false_ne_true, ht]

/-- **Read, mentioned**: the result for a characteristic is the *last* entry of the reply that
    names it (ids removed, status 0 removed, description added for a non-zero status) - whatever
    precedes it (a request-wide error, earlier duplicates, malformed entries). -/
theorem C13_read_mentioned (data : Obj) (requested : List Key) (l1 l2 : List J) (c : J) (k : Key)
    (hl : oget data "characteristics" = some (.arr (l1 ++ c :: l2)))
    (hc : mentions c k = true) (hlast : ∀ x ∈ l2, mentions x k = false) :
    rget (format data requested) k = some (processed c) := by
  unfold format
  simp only [hl, List.foldl_append, List.foldl_cons]
  rw [rget_foldl_formatEntry_of_not_mentioned k l2 _ hlast, rget_formatEntry, hc, if_pos rfl]

/-- **Read, request-wide error**: a requested characteristic the reply does not mention gets the
    request-wide non-zero status and its description. -/
theorem C13_read_global_error (data : Obj) (requested : List Key) (s : Int) (l : List J) (k : Key)
    (hs : (oget data "status").bind asInt = some s) (hne : s ≠ 0) (hk : k ∈ requested)
    (hl : oget data "characteristics" = some (.arr l) ∨ oget data "characteristics" = none)
    (hnot : ∀ c ∈ l, mentions c k = false) :
    rget (format data requested) k = some [("status", .int s), ("description", .str (describe s))] := by
  unfold format
  simp only [hs, hne, ne_eq, not_false_eq_true, if_true]
  rcases hl with hl | hl
  · simp only [hl]
    rw [rget_foldl_formatEntry_of_not_mentioned k l _ hnot, rget_foldl_rset_of_mem _ hk]
  · simp only [hl, List.foldl_nil]
    rw [rget_foldl_rset_of_mem _ hk]

/-- **Read, silence**: without a request-wide error nothing is invented for a characteristic the
    reply does not mention. -/
theorem C13_read_not_mentioned (data : Obj) (requested : List Key) (l : List J) (k : Key)
    (hs : (oget data "status").bind asInt = none ∨ (oget data "status").bind asInt = some 0)
    (hl : oget data "characteristics" = some (.arr l)) (hnot : ∀ c ∈ l, mentions c k = false) :
    rget (format data requested) k = none := by
  unfold format
  simp only [hl]
  rw [rget_foldl_formatEntry_of_not_mentioned k l _ hnot]
  rcases hs with hs | hs <;> simp [hs, rget]

/-- the entry rejects key `k`: well-formed, names `k`, non-zero status -/
def rejects (c : J) (k : Key) : Bool :=
  match c with
  | .obj o => match (oget o "aid").bind asInt, (oget o "iid").bind asInt, (oget o "status").bind asInt with
    | some a, some i, some s => (a, i) = k ∧ s ≠ 0
    | _, _, _ => false
  | _ => false

/-- **Write (IP), listeners exact**: after a multi-status reply listeners are notified of exactly
    the readable requested characteristics that no entry of the reply rejects (non-zero status,
    either sign, known or unknown code) - with the written values; a 204 reply notifies all of
    them.  Malformed entries (non-dict, id-less, status-less) reject nothing. -/
theorem C13_write_listeners_exact (readable : List Key) (resp : Obj) (l : List J)
    (hl : oget resp "characteristics" = some (.arr l)) :
    (ipPut readable (some resp)).notified = readable.filter (fun k => l.all (fun c => !rejects c k)) ∧
    (ipPut readable none).notified = readable := by
  refine ⟨?_, rfl⟩
  unfold ipPut
  simp only [hl]
  refine foldl_notified rejects _ (fun acc c => ?_) l _
  -- one entry drops exactly what it rejects
  unfold rejects
  cases c with
  | obj o =>
    simp only
    cases ha : (oget o "aid").bind asInt with
    | none => simp only [Bool.not_false, filter_true']
    | some a =>
      cases hi : (oget o "iid").bind asInt with
      | none => simp only [Bool.not_false, filter_true']
      | some i =>
        cases hs : (oget o "status").bind asInt with
        | none => simp only [Bool.not_false, filter_true']
        | some s =>
          -- the normalised code is non-zero exactly when the status is
          simp only [ne_eq, C13_status_zero_iff]
          by_cases h0 : s = 0
          · simp only [h0, not_true_eq_false, if_false, and_false, decide_false, Bool.not_false, filter_true']
          · simp only [h0, not_false_eq_true, if_true, and_true, eq_comm (a := (a, i)), decide_not]
  | _ => simp only [Bool.not_false, filter_true']

/-- **Write (IP), no false success / no false failure** as corollaries -/
theorem C13_write_no_false_success (readable : List Key) (resp : Obj) (l : List J) (c : J) (k : Key)
    (hl : oget resp "characteristics" = some (.arr l)) (hc : c ∈ l) (hr : rejects c k = true) :
    k ∉ (ipPut readable (some resp)).notified := by
  rw [(C13_write_listeners_exact readable resp l hl).1]
  intro hmem
  have := (List.mem_filter.mp hmem).2
  have h2 := List.all_eq_true.mp this c hc
  simp [hr] at h2

theorem C13_write_no_false_failure (readable : List Key) (resp : Obj) (l : List J) (k : Key)
    (hl : oget resp "characteristics" = some (.arr l)) (hk : k ∈ readable) (hr : ∀ c ∈ l, rejects c k = false) :
    k ∈ (ipPut readable (some resp)).notified := by
  rw [(C13_write_listeners_exact readable resp l hl).1]
  apply List.mem_filter.mpr
  refine ⟨hk, List.all_eq_true.mpr (fun c hc => by simp [hr c hc])⟩

/-- CoAP: notified = accepted ∩ readable, error entries = rejected, both positional -/
theorem C13_write_coap (requested : List (Key × Bool)) (results : List Nat) (k : Key) :
    (k ∈ (coapPut requested results).notified ↔ ∃ x ∈ requested.zip results, x.1.1 = k ∧ x.2 = 0 ∧ x.1.2 = true) ∧
    ((∃ o, (k, o) ∈ (coapPut requested results).status) ↔ ∃ x ∈ requested.zip results, x.1.1 = k ∧ x.2 ≠ 0) := by
  unfold coapPut
  constructor
  · simp only [List.mem_map, List.mem_filter, decide_eq_true_eq]
    constructor
    · rintro ⟨x, ⟨hx, h0, hr⟩, rfl⟩
      exact ⟨x, hx, rfl, h0, hr⟩
    · rintro ⟨x, hx, rfl, h0, hr⟩
      exact ⟨x, ⟨hx, h0, hr⟩, rfl⟩
  · simp only [List.mem_map, List.mem_filter, decide_eq_true_eq, Prod.mk.injEq]
    constructor
    · rintro ⟨o, x, ⟨hx, hne⟩, hk, _⟩
      exact ⟨x, hx, hk, hne⟩
    · rintro ⟨x, hx, hk, hne⟩
      exact ⟨_, x, ⟨hx, hne⟩, hk, rfl⟩

/-- BLE: a rejected write makes the call fail (raise); nothing written after it is reported as
    written, and only accepted readable characteristics were notified before it -/
theorem C13_write_ble_rejected_raises (pre post : List (Key × Perm × Bool)) (k : Key) (p : Perm)
    (hp : p.writable = true) (hpre : ∀ x ∈ pre, x.2.1.writable = true ∧ x.2.2 = true) :
    (blePut (pre ++ (k, p, false) :: post) [] []).2.2 = true ∧
    (blePut (pre ++ (k, p, false) :: post) [] []).1 = (pre.filter (·.2.1.readable)).map (·.1) := by
  rw [blePut_accepted _ pre [] [] hpre]
  simp only [blePut, hp, Bool.not_true, Bool.false_eq_true, if_false, Bool.not_false, if_true, List.nil_append, and_self]

/-- **A BLE read never invents or misattributes a value**: every entry of the result is a requested
    characteristic that the accessory answered with exactly that value. -/
theorem C13_ble_read_values_genuine (req : List (Key × BleAnswer)) (k : Key) (v : Nat)
    (h : (k, v) ∈ bleGet req) : (k, BleAnswer.value v) ∈ req :=
  (mem_bleGet k v req).1 h

/-- every characteristic the accessory answered with a value is in the result with that value, in fetch order -/
theorem C13_ble_read_values_complete (req : List (Key × BleAnswer)) (k : Key) (v : Nat)
    (h : (k, BleAnswer.value v) ∈ req) : (k, v) ∈ bleGet req :=
  (mem_bleGet k v req).2 h

/-- **The unchanged BLE read path leaves a refused characteristic out of the result** - neither a value nor an
    error status, which the first sentence of the property demands (open known finding
    `ble-e2e/read-refused-item-omitted`, replayed on the real `BlePairing.get_characteristics` on every run) -/
theorem C13_ble_read_counterexample_refused_omitted :
    ∃ (req : List (Key × BleAnswer)) (k : Key) (st : Nat), (k, BleAnswer.refused st) ∈ req ∧ st ≠ 0 ∧
      ∀ v, (k, v) ∉ bleGet req :=
  ⟨[((1, 12), .refused 3)], (1, 12), 3, by simp, by decide, by simp [bleGet]⟩

/-! ## The status line does not override the body -/

/-- **Whatever status line the accessory chooses (200, 207, 500, ...), the per-characteristic statuses of its JSON body
    decide**: outside 4xx (where the call fails) and 204 (no body by definition), the outcome of a write is exactly the
    one the body yields - so `C13_write_no_false_success` / `C13_write_listeners_exact` apply to it unchanged. -/
theorem C13_write_status_line_irrelevant (readable : List Key) (code : Nat) (resp : Obj)
    (h4 : ¬ (400 ≤ code ∧ code ≤ 499)) (h204 : code ≠ 204) :
    (match ipPutHttp readable code (some resp) with
      | .result r => r.notified = (ipPut readable (some resp)).notified ∧ r.status = (ipPut readable (some resp)).status
      | .failed => False) := by
  simp [ipPutHttp, h4, h204]

/-- a 4xx reply never completes as a success, whatever its body says -/
theorem C13_write_4xx_fails (readable : List Key) (code : Nat) (body : Option Obj) (h : 400 ≤ code ∧ code ≤ 499) :
    (match ipPutHttp readable code body with | .failed => True | .result _ => False) := by
  simp [ipPutHttp, h]

end HapVerif.C13
