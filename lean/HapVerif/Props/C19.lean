import HapVerif.Model.Waiters
import HapVerif.Gen.Misc

/-! # C19 - device waiters are woken by advertisements; advertisement parsing is robust -/

namespace HapVerif.C19
open HapVerif HapVerif.Waiters

/-- **Woken**: when a valid advertisement for `id` is processed, every waiter pending for `id` -
    whatever the order of registration, however many other waiters and ids there are - is
    completed with the discovery at that very step, and no waiter for another id is touched. -/
theorem C19_woken (s : St) (id : Nat) :
    (∀ p ∈ s.pending, p.id = id → (p.k, Outcome.found s.now) ∈ (step s (.adv id)).done) ∧
    (∀ p ∈ s.pending, p.id ≠ id → p ∈ (step s (.adv id)).pending) ∧
    (∀ p ∈ (step s (.adv id)).pending, p.id ≠ id ∧ p ∈ s.pending) := by
  refine ⟨fun p hp hid => ?_, fun p hp hid => ?_, fun p hp => ?_⟩
  · exact List.mem_append_right _ (List.mem_map_of_mem (List.mem_filter.mpr ⟨hp, decide_eq_true hid⟩))
  · exact List.mem_filter.mpr ⟨hp, decide_eq_true hid⟩
  · exact ⟨of_decide_eq_true (List.mem_filter.mp hp).2, (List.mem_filter.mp hp).1⟩

/-- a caller that starts waiting after the device was already discovered is completed at once -/
theorem C19_known_device_immediate (s : St) (k id timeout : Nat) (h : id ∈ s.discovered) :
    (k, Outcome.found s.now) ∈ (step s (.start k id timeout)).done ∧
    (step s (.start k id timeout)).pending = s.pending := by
  simp [step, h]

/-- **Timeout**: when the clock reaches a waiter's deadline without an advertisement for its id,
    it fails with not-found stamped exactly at its deadline; waiters whose deadline is later are
    untouched. -/
theorem C19_timeout (s : St) (t : Nat) (ht : s.now ≤ t) :
    (∀ p ∈ s.pending, p.deadline ≤ t → (p.k, Outcome.notFound p.deadline) ∈ (step s (.advance t)).done) ∧
    (∀ p ∈ s.pending, t < p.deadline → p ∈ (step s (.advance t)).pending) := by
  have hmax : max t s.now = t := Nat.max_eq_left ht
  refine ⟨fun p hp hd => ?_, fun p hp hd => ?_⟩
  · exact List.mem_append_right _ (List.mem_map_of_mem (List.mem_filter.mpr ⟨hp, decide_eq_true (hmax.symm ▸ hd)⟩))
  · exact List.mem_filter.mpr ⟨hp, decide_eq_true (hmax.symm ▸ hd)⟩

/-- cancelling one waiter removes exactly that waiter -/
theorem C19_cancel (s : St) (k : Nat) :
    (∀ p ∈ s.pending, p.k ≠ k → p ∈ (step s (.cancel k)).pending) ∧
    (∀ p ∈ (step s (.cancel k)).pending, p.k ≠ k) :=
  ⟨fun _ hp hk => List.mem_filter.mpr ⟨hp, decide_eq_true hk⟩, fun _ hp => of_decide_eq_true (List.mem_filter.mp hp).2⟩

/-- **Nothing completed is ever undone or completed twice by a later step**: `done` only grows -/
theorem C19_done_monotone (s : St) (e : Ev) : ∀ x ∈ s.done, x ∈ (step s e).done := by
  intro x hx
  cases e with
  | start k id timeout =>
    rw [step]
    split
    · exact List.mem_append_left _ hx
    · exact hx
  | _ => exact List.mem_append_left _ hx

/-- **Order independence** (frame property): a step never changes a *pending* waiter other than by
    completing it for one of the three legitimate reasons - its own id was advertised, its own
    deadline passed, or it was cancelled itself. -/
theorem C19_order_independent (s : St) (e : Ev) (p : Pending) (hp : p ∈ s.pending) :
    p ∈ (step s e).pending ∨ e = .adv p.id ∨ e = .cancel p.k ∨ (∃ t, e = .advance t ∧ p.deadline ≤ max t s.now) := by
  cases e with
  | start k id timeout =>
    left
    rw [step]
    split
    · exact hp
    · exact List.mem_append_left _ hp
  | adv id =>
    by_cases h : p.id = id
    · exact .inr (.inl (h ▸ rfl))
    · exact .inl (List.mem_filter.mpr ⟨hp, decide_eq_true h⟩)
  | cancel k =>
    by_cases h : p.k = k
    · exact .inr (.inr (.inl (h ▸ rfl)))
    · exact .inl (List.mem_filter.mpr ⟨hp, decide_eq_true h⟩)
  | advance t =>
    by_cases h : p.deadline ≤ max t s.now
    · exact .inr (.inr (.inr ⟨t, rfl, h⟩))
    · exact .inl (List.mem_filter.mpr ⟨hp, decide_eq_true (Nat.lt_of_not_le h)⟩)

example : (run {} [.start 1 7 5000, .start 2 8 5000, .start 3 7 9000, .cancel 3, .adv 7, .advance 6000]).done =
    [(3, .cancelled), (1, .found 0), (2, .notFound 5000)] := by decide +kernel

/-- **BLE, truncation**: every advertisement shorter than the 15 mandatory bytes is ignored, and so
    is every one whose type byte is not the HomeKit advertisement type -/
theorem C19_parse_ble_truncated (data : Bytes) (h : data.length < 15) : parseBle data = none := by
  cases data with
  | nil => rfl
  | cons t rest =>
    by_cases ht : t ≠ 0x06
    · exact if_pos ht
    · exact (if_neg ht).trans (if_pos h)

theorem C19_parse_ble_wrong_type (t : UInt8) (rest : Bytes) (h : t ≠ 0x06) : parseBle (t :: rest) = none :=
  if_pos h

/-- **BLE, layout**: type, length, status flags, 6-byte id, category (LE16), state number (LE16),
    configuration number, compatible version, then the optional 4-byte setup hash -/
theorem C19_parse_ble_layout (l sf i0 i1 i2 i3 i4 i5 a0 a1 g0 g1 cn cv : UInt8) :
    parseBle [0x06, l, sf, i0, i1, i2, i3, i4, i5, a0, a1, g0, g1, cn, cv]
      = some ⟨[i0, i1, i2, i3, i4, i5], sf.toNat, le16 a0 a1, le16 g0 g1, cn.toNat, []⟩ ∧
    ∀ h0 h1 h2 h3 : UInt8, parseBle [0x06, l, sf, i0, i1, i2, i3, i4, i5, a0, a1, g0, g1, cn, cv, h0, h1, h2, h3]
      = some ⟨[i0, i1, i2, i3, i4, i5], sf.toNat, le16 a0 a1, le16 g0 g1, cn.toNat, [h0, h1, h2, h3]⟩ :=
  ⟨rfl, fun _ _ _ _ => rfl⟩

/-- **mDNS**: a record is accepted only with at least one address that is neither link-local nor
    unspecified and with an id; the id is reported lower-cased, the address is the first usable
    one in the order zeroconf delivers them (IPv4 first), and only usable addresses are listed -/
theorem C19_parse_mdns (addrs : List (AddrKind × String)) (props : List (String × Option String)) (m : Mdns)
    (h : parseMdns addrs props = some m) :
    (∃ id, lookupTxt props "id" = some id ∧ m.id = id.toLower) ∧
    m.addresses = (addrs.filter (·.1 = .ok)).map (·.2) ∧ m.addresses.head? = some m.address := by
  revert h
  fun_cases parseMdns addrs props
  -- no address at all
  next => nofun
  -- no usable address
  next => nofun
  -- no id
  next => nofun
  -- accepted
  next first _ hvalid id hid _ _ _ _ _ _ _ _ _ _ _ =>
    rintro ⟨rfl⟩
    exact ⟨⟨id, hid, rfl⟩, rfl, congrArg List.head? hvalid⟩
  -- a number that does not parse
  next => nofun

theorem C19_parse_mdns_no_usable_address (addrs : List (AddrKind × String)) (props : List (String × Option String))
    (h : ∀ a ∈ addrs, a.1 ≠ .ok) : parseMdns addrs props = none := by
  unfold parseMdns
  split
  · rfl
  · have : (addrs.filter (·.1 = .ok)) = [] := List.filter_eq_nil_iff.mpr fun a ha => by simpa using h a ha
    simp [this]

/-- tie to the source (regenerated on every run from `HomeKitAdvertisement.from_manufacturer_data`): the minimum
    length 15, the optional setup hash from 19 bytes on, the byte ranges of type, status flags, device id, the packed
    `<HHBB` block (category, state number, configuration number, compatible version) and the setup hash -/
theorem C19_gen_tie :
    Gen.Misc.bleAdvLenChecks = [("GtE", 19), ("Lt", 15)] ∧
    Gen.Misc.bleAdvSlices = [(0, 1), (2, 3), (3, 9), (9, 15), (15, 19)] ∧
    Gen.Misc.bleAdvUnpack = "<HHBB" :=
  ⟨rfl, rfl, rfl⟩

/-! ## Inside one loop iteration (`Waiters.Micro`): the callbacks meet futures that are already done -/

open HapVerif.Waiters.Micro in
theorem wake_eq (id : Nat) (e : Micro.Entry) : wake id e =
    (if e.id = id ∧ e.registered then
      { e with st := if e.st = .pending then .resolved else e.st, registered := false } else e, false) := by
  fun_cases wake id e
  -- registered, pending
  next hc hp x hx =>
    cases (if_pos hp).symm.trans hx
    rw [if_pos hc, if_pos hp]
  -- registered, pending, `set_result` raising: impossible
  next hc hp _ hx => cases (if_pos hp).symm.trans hx
  -- registered, done
  next hc hp => rw [if_pos hc, if_neg hp]
  -- not registered for `id`
  next hc => rw [if_neg hc]

theorem step_raised (s : Micro.St) (e : Micro.Ev) : (Micro.step s e).raised = s.raised := by
  cases e with
  | start k id => exact (apply_ite Micro.St.raised ..).trans (ite_self _)
  | adv id =>
    show (s.raised || s.entries.any fun e => (Micro.wake id e).2) = s.raised
    simp only [wake_eq, List.any_eq_false.mpr fun _ _ => Bool.false_ne_true, Bool.or_false]
  | _ => rfl

/-- **No advertisement makes the callback raise, in any schedule** - also when it is processed in the very loop
    iteration in which a waiter for its id was cancelled or timed out (its future is done, its task has not run yet
    and it is still registered). -/
theorem C19_micro_callback_never_raises (evs : List Micro.Ev) : (Micro.run {} evs).raised = false :=
  List.foldlRecOn (motive := fun s => s.raised = false) evs Micro.step rfl fun s h e _ => (step_raised s e).trans h

open HapVerif.Waiters.Micro in
/-- **A waiter that is still pending when a valid advertisement for its id is processed is completed with the
    discovery** - whatever else happened to other waiters in the same iteration - and the next run of the loop
    reports it found. -/
theorem C19_micro_pending_woken (s : Micro.St) (id : Nat) (e : Micro.Entry) (he : e ∈ s.entries)
    (hid : e.id = id) (hreg : e.registered = true) (hp : e.st = .pending) :
    { e with st := .resolved, registered := false } ∈ (Micro.step s (.adv id)).entries ∧
    (e.k, Micro.Outcome.found) ∈ (Micro.settle (Micro.step s (.adv id))).done := by
  have hw : (wake id e).1 = { e with st := .resolved, registered := false } := by
    rw [wake_eq, if_pos ⟨hid, hreg⟩, if_pos hp]
  have hmem : { e with st := .resolved, registered := false } ∈ (Micro.step s (.adv id)).entries :=
    hw ▸ List.mem_map_of_mem (f := fun e => (wake id e).1) he
  exact ⟨hmem, List.mem_append_right _ (List.mem_map_of_mem (List.mem_filter.mpr ⟨hmem, rfl⟩))⟩

open HapVerif.Waiters.Micro in
/-- a waiter whose future is already done (cancelled or timed out) is left alone by the advertisement: it ends with
    its own outcome, never with a discovery it did not wait for any more -/
theorem C19_micro_done_untouched (id : Nat) (e : Micro.Entry) (hd : e.st = .cancelled ∨ e.st = .timedOut) :
    (wake id e).1.st = e.st := by
  have hp : e.st ≠ .pending := by rcases hd with h | h <;> rw [h] <;> nofun
  rw [wake_eq, if_neg hp]
  split <;> rfl

/-- non-vacuity: waiters 1 and 2 wait for device 7; waiter 1 is cancelled and, in the same iteration, the
    advertisement arrives: waiter 2 is woken, waiter 1 ends cancelled, nothing raises -/
example : (Micro.run {} [.start 1 7, .start 2 7, .cancel 1, .adv 7, .tick]).done = [(1, .cancelled), (2, .found)] ∧
    (Micro.run {} [.start 1 7, .start 2 7, .cancel 1, .adv 7, .tick]).raised = false := by decide +kernel

end HapVerif.C19
