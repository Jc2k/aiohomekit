import HapVerif.Proofs.ReconnectSilent
import HapVerif.Proofs.ReconnectObs
import HapVerif.Gen.Reconnect

/-! # C10 - reconnection keeps trying with bounded back-off and a single connector

Over the supervisor automaton `Reconnect`, tied to `controller/ip/connection.py` / `pairing.py` by `tools/translate.py`
(constants) and `harness/c10.py` (behaviour).  Times in 1/8192 s: 6144 = 0.75 s, 81920 = 10 s, 491520 = 60 s. -/

namespace HapVerif.Reconnect

/-- the constants and the order of the exception handlers are those of the current source -/
theorem C10_gen_tie :
    consts = { initial := Gen.Reconnect.initial, cap := Gen.Reconnect.cap, num := Gen.Reconnect.num,
               den := Gen.Reconnect.den, connectTimeout := Gen.Reconnect.connectTimeout,
               requestTimeout := Gen.Reconnect.requestTimeout, ensureTimeout := Gen.Reconnect.ensureTimeout } ∧
    unit = Gen.Reconnect.unit ∧
    Gen.Reconnect.handlers = [("AuthenticationError", "raise"), ("IncorrectPairingIdError", "continue-if"),
                              ("HomeKitException", "retry"), ("Exception", "retry")] :=
  ⟨rfl, rfl, rfl⟩

/-! ## the back-off sequence -/

/-- the k-th consecutive back-off delay of one connector (k = 0 is the first) -/
def delay : Nat → Nat
  | 0 => nextInterval consts.initial
  | k + 1 => nextInterval (delay k)

/-- 0.75 s, 1.125 s, 1.6875 s, ... , 43.2 s, 60 s, 60 s -/
theorem C10_delay_table : (List.range 13).map delay =
    [6144, 9216, 13824, 20736, 31104, 46656, 69984, 104976, 157464, 236196, 354294, 491520, 491520] := by
  decide +kernel

/-- the first eleven delays are exactly `0.5 * 1.5^(k+1)` seconds (no rounding in the model's unit) -/
theorem C10_delay_exact : ∀ k, k ≤ 10 → delay k * 2 ^ (k + 1) = 4096 * 3 ^ (k + 1) := by decide +kernel

/-- from the twelfth on, every delay is 60 s -/
theorem C10_delay_cap (k : Nat) (h : 11 ≤ k) : delay k = 491520 := by
  induction h with
  | refl => decide +kernel
  | step _ ih =>
    rw [delay, ih]
    decide +kernel

/-- every delay is at least 0.75 s, at most 60 s, and the sequence never shrinks -/
theorem C10_delay_bounds (k : Nat) : 6144 ≤ delay k ∧ delay k ≤ 491520 ∧ delay k ≤ delay (k + 1) := by
  have h0 : 6144 ≤ delay k ∧ delay k ≤ 491520 := by
    induction k with
    | zero =>
      have := nextInterval_bounds consts.initial initial_bounds.1 initial_bounds.2
      exact ⟨this.1, this.2.1⟩
    | succ n ih =>
      have := nextInterval_bounds (delay n) (by omega) ih.2
      exact ⟨this.1, this.2.1⟩
  have := nextInterval_bounds (delay k) (by omega) h0.2
  exact ⟨h0.1, h0.2, this.2.2⟩

/-- a failed attempt sleeps for the next interval of the sequence; a new connector starts again at 0.5 s -/
theorem C10_backoff_step (s : St) :
    (backoff s).interval = nextInterval s.interval ∧
    (backoff s).conn = .sleeping (s.now + nextInterval s.interval) := ⟨rfl, rfl⟩

/-- every back-off sleep ever started, in every reachable state, lasts between 0.75 s and 60 s:
    no busy loop through the back-off path, and never more than a minute between attempts -/
theorem C10_sleep_bounds (hosts : List Host) (evs : List Ev) (t d : Nat)
    (h : Obs.sleep t d ∈ (run (init hosts) evs).obs) : 6144 ≤ d ∧ d ≤ 491520 :=
  (run_sup hosts evs).obs _ h

/-! ## a single connector -/

/-- at most one connector task exists, and exactly when the connector slot holds a running one -/
theorem C10_single_connector (hosts : List Host) (evs : List Ev) :
    (run (init hosts) evs).liveTasks ≤ 1 ∧
    ((run (init hosts) evs).liveTasks = 1 ↔ (run (init hosts) evs).conn.live = true) := by
  have h := (run_sup hosts evs).inv.tasks
  cases hl : (run (init hosts) evs).conn.live <;> simp [h, hl]

/-! ## what ends the retries -/

/-- unless `close()`/`shutdown()` was called, the connector is still running, or was never started, or ended
    with an authentication failure, or the pairing is connected.  (`stuck` is the model's out-of-fuel marker.) -/
theorem C10_retries_never_end (hosts : List Host) (evs : List Ev)
    (hcl : (run (init hosts) evs).closing = false) :
    (run (init hosts) evs).conn = .idle ∨ (run (init hosts) evs).conn.live = true ∨
    (run (init hosts) evs).conn = .doneAuth ∨ (run (init hosts) evs).conn = .stuck ∨
    ((run (init hosts) evs).conn = .doneOk ∧ (run (init hosts) evs).isConnected = true) :=
  (run_sup hosts evs).retrying hcl

/-- the connector ends with `doneAuth` only on an authentication verdict, with `doneOk` only on a successful
    pair-verify (`okLost` is a success that the accessory may undo by dropping the connection during set-up) -/
theorem C10_verdict_classes (s : St) (v : Ver) :
    ((verifyVerdict s v).1.conn = .doneAuth → v = .auth ∨ s.conn = .doneAuth) ∧
    ((verifyVerdict s v).1.conn = .doneOk → v = .ok ∨ v = .okLost ∨ s.conn = .doneOk) := by
  cases v with
  | ok => exact ⟨nofun, fun _ => .inl rfl⟩
  | auth => exact ⟨fun _ => .inl rfl, nofun⟩
  | fail => exact ⟨nofun, nofun⟩
  | hang =>
    rw [verifyVerdict]
    split <;> exact ⟨nofun, nofun⟩
  | okLost =>
    rw [verifyVerdict]
    split
    · exact ⟨nofun, fun _ => .inr (.inl rfl)⟩
    · split <;> exact ⟨nofun, nofun⟩
  | wrongId =>
    rw [verifyVerdict_wrongId]
    split
    · rw [wrongIdState, dropTransport_eq]
      exact ⟨.inr, fun h => .inr (.inr h)⟩
    · exact ⟨nofun, nofun⟩

/-! ## immediate retries and excluded addresses -/

/-- the loop continues without back-off only after a wrong-pairing-id answer that excluded a *new* address
    while another advertised address is still not excluded -/
theorem C10_continue_requires_progress (s : St) (v : Ver) (h : (verifyVerdict s v).2 = true) :
    v = .wrongId ∧ (verifyVerdict s v).1.count0 < (verifyVerdict s v).1.failed.length ∧
    ∃ x ∈ (verifyVerdict s v).1.hosts, x ∉ (verifyVerdict s v).1.failed := by
  cases v with
  | ok | auth | fail => cases h
  | hang =>
    simp only [verifyVerdict] at h
    split at h <;> cases h
  | okLost =>
    simp only [verifyVerdict] at h
    split at h
    · cases h
    · split at h <;> cases h
  | wrongId =>
    rw [verifyVerdict_wrongId] at h ⊢
    split at h
    · rw [if_pos ‹_›]
      exact ⟨rfl, retry_iff.mp ‹_›⟩
    · cases h

/-- no advertised address is excluded forever: whenever the connector is in a back-off sleep, the exclusions
    are either empty or cover every address, so the attempt that follows the sleep is made against *all*
    currently advertised addresses -/
theorem C10_round_targets_all (hosts : List Host) (evs : List Ev) (t : Time)
    (hs : (run (init hosts) evs).conn = .sleeping t) :
    (prepare (run (init hosts) evs)).2 = (prepare (run (init hosts) evs)).1.hosts :=
  prepare_targets_all _ ((run_sup hosts evs).sleeping_excl hs)

/-- ... and that list is what the connector dials: the first thing the TCP phase records is the attempt
    against the whole list it was given; everything else it records comes later -/
theorem C10_attempt_recorded (a : Host) (as : List Host) (s : St) :
    ∃ rest, (tcpPhase (a :: as) s).1.obs = s.obs ++ Obs.attempt s.now (a :: as) :: rest := by
  obtain ⟨rest, h⟩ := grows_tcpPhase_cons a as s (grows_tcpPhase as)
  exact ⟨rest, by rw [← h]; simp [dialled]⟩

/-! ## waiting callers -/

/-- a pending caller is never overdue and never older than the pairing-level 10 s -/
theorem C10_waiter_bounded (hosts : List Host) (evs : List Ev) (w : Waiter)
    (hw : w ∈ (run (init hosts) evs).waiters) :
    (run (init hosts) evs).now ≤ w.due ∧ w.due ≤ w.deadline ∧
    w.deadline ≤ (run (init hosts) evs).now + 81920 := by
  have := (run_sup hosts evs).tw w hw
  exact ⟨this.1, Waiter.due_le_deadline w, this.2⟩

/-- once time has advanced, nothing that was due is still pending; in particular 10 s later every caller that
    was waiting has been answered (with its result, a disconnection error or the authentication error) -/
theorem C10_waiter_answered (hosts : List Host) (evs : List Ev) (dt : Nat) :
    (∀ w ∈ (step (run (init hosts) evs) (.adv dt)).waiters, (run (init hosts) evs).now + dt < w.due) ∧
    (81920 ≤ dt → ∀ w ∈ (run (init hosts) evs).waiters, w ∉ (step (run (init hosts) evs) (.adv dt)).waiters) := by
  have hf := advanceTo_fires ((run (init hosts) evs).tcp.length + dt / consts.initial + 4)
    ((run (init hosts) evs).now + dt) (run (init hosts) evs)
  refine ⟨hf, fun hdt w hw hmem => ?_⟩
  have h1 := hf w hmem
  have h2 := C10_waiter_bounded hosts evs w hw
  unfold Time at *
  omega

/-- callers wait only on a running connector (so each of them is answered when it finishes) -/
theorem C10_waiters_need_connector (hosts : List Host) (evs : List Ev) :
    (run (init hosts) evs).conn.live = true ∨ (run (init hosts) evs).waiters = [] :=
  (run_sup hosts evs).w

/-- a caller giving up - by its own timeout, by the 10 s limit, or by cancellation - does not touch the connector -/
theorem C10_waiter_does_not_abort_connector (s : St) (id : Nat) (t : Time) :
    (step s (.cancelW id)).conn = s.conn ∧ (step s (.cancelW id)).liveTasks = s.liveTasks ∧
    (fireWaiters s t).conn = s.conn ∧ (fireWaiters s t).liveTasks = s.liveTasks := ⟨rfl, rfl, rfl, rfl⟩

/-! ## after close / shutdown -/

/-- after `shutdown()` nothing - no event whatsoever - produces another connection attempt -/
theorem C10_after_shutdown_silent (hosts : List Host) (evs more : List Ev)
    (hs : (run (init hosts) evs).shutdown = true) :
    attempts (run (run (init hosts) evs) more) = attempts (run (init hosts) evs) :=
  (silent_run more (run_sup hosts evs) ((run_sup hosts evs).sh hs) (.inr hs)).sameAttempts

/-- after `close()` no attempt is made until something asks for the connection again: time passing, the
    accessory closing connections, callers being cancelled and repeated closes produce none -/
theorem C10_after_close_silent (hosts : List Host) (evs more : List Ev)
    (hc : (run (init hosts) evs).closing = true) (hm : ∀ e ∈ more, e.isTrigger = false) :
    attempts (run (run (init hosts) evs) more) = attempts (run (init hosts) evs) :=
  (silent_run more (run_sup hosts evs) hc (.inl hm)).sameAttempts

/-- `close()` and `shutdown()` set `closing` -/
theorem C10_close_sets_closing (s : St) (h : Inv s) :
    (step s .close).closing = true ∧ (step s .shutdown).closing = true ∧ (step s .shutdown).shutdown = true :=
  ⟨closeConn_closing s, closeConn_closing _, closeConn_shutdown _⟩

/-! ## the loop cannot spin -/

/-- in every reachable state the excluded addresses are advertised ones, without duplicates -/
theorem C10_exclusions_wellformed (hosts : List Host) (evs : List Ev) :
    (∀ h ∈ (run (init hosts) evs).failed, h ∈ (run (init hosts) evs).hosts) ∧
    (run (init hosts) evs).failed.Nodup :=
  ⟨(run_sup hosts evs).sub, (run_sup hosts evs).nd⟩

/-- an immediate retry (`continue`) happens only after the exclusions grew beyond their size at the top of the
    iteration, and they stay strictly smaller than the address list: at most once per address -/
theorem C10_immediate_retry_once_per_address (as : List Host) (s : St)
    (hsub : ∀ h ∈ s.failed, h ∈ s.hosts) (hnd : s.failed.Nodup) (has : ∀ x ∈ as, x ∈ s.hosts)
    (h : (tcpPhase as s).2 = true) :
    s.count0 < (tcpPhase as s).1.failed.length ∧ (tcpPhase as s).1.failed.length < s.hosts.length ∧
    (tcpPhase as s).1.hosts = s.hosts := by
  have a := (tcpPhase_out as ⟨hsub, hnd⟩ has).again h
  exact ⟨a.grew, a.room, a.hosts⟩

/-- hence the loop body runs at most (number of addresses not yet excluded) + 1 times at one instant: with that
    much fuel the model's loop never runs dry (`stuck` is what it would report), whatever the scripted outcomes -/
theorem C10_loop_bounded (fuel : Nat) (s : St) (hsub : ∀ h ∈ s.failed, h ∈ s.hosts) (hnd : s.failed.Nodup)
    (hst : Stable s) (hf : s.hosts.length - s.failed.length < fuel) :
    (loopTop fuel s).conn ≠ .stuck := by
  have hle := List.Nodup.length_le_of_subset hnd (fun x hx => hsub x hx)
  exact loopTop_fuel fuel ⟨hsub, hnd⟩ (.inl ⟨hst, by omega⟩)

/-- ... and no reachable state is `stuck`: the fuel the model uses is always sufficient -/
theorem C10_never_stuck (hosts : List Host) (evs : List Ev) : (run (init hosts) evs).conn ≠ .stuck :=
  (run_sup hosts evs).fuel

/-- so the retries end only by success, an authentication failure, or close -/
theorem C10_retries_end_only_by_auth_or_close (hosts : List Host) (evs : List Ev)
    (hcl : (run (init hosts) evs).closing = false) :
    (run (init hosts) evs).conn = .idle ∨ (run (init hosts) evs).conn.live = true ∨
    (run (init hosts) evs).conn = .doneAuth ∨
    ((run (init hosts) evs).conn = .doneOk ∧ (run (init hosts) evs).isConnected = true) :=
  (C10_retries_never_end hosts evs hcl).imp_right
    (.imp_right (.imp_right (Or.resolve_left · (C10_never_stuck hosts evs))))

/-- non-vacuity: two addresses; the first answers with a wrong pairing id, the second refuses; after the
    back-off (0.75 s) the next attempt is against both again -/
example :
    let s := run (init [1, 2]) [.pushVer .wrongId, .pushTcp (.ok 0), .pushTcp .refused, .ensure 1 none]
    s.conn = .sleeping 6144 ∧ s.failed = [] ∧
    attempts (step s (.adv 6144)) = [.attempt 0 [1, 2], .attempt 0 [2], .attempt 6144 [1, 2]] := by decide +kernel

/-! ## success ends the retries -/

/-- **retries end by success**: whenever the pairing is connected (a current connection, secure, not closed) the
    connector is not running - no back-off sleep, no connect and no pair-verify is pending -/
theorem C10_connected_connector_idle (hosts : List Host) (evs : List Ev)
    (h : (run (init hosts) evs).isConnected = true) : (run (init hosts) evs).conn.live = false :=
  (run_sup hosts evs).connected_dead h

/-- hence, while it stays connected, nothing but the loss of the connection (or a close) makes the library connect
    again: time passing, callers asking for the connection, cancelled callers and zeroconf updates cause no attempt -/
theorem C10_no_attempt_while_connected (hosts : List Host) (evs : List Ev) (e : Ev)
    (h : (run (init hosts) evs).isConnected = true)
    (he : (∀ c, e ≠ .drop c) ∧ e ≠ .close ∧ e ≠ .shutdown) :
    attempts (step (run (init hosts) evs) e) = attempts (run (init hosts) evs) :=
  (quiet_step (run_sup hosts evs) ((run_sup hosts evs).connected_dead h) (fun _ => .inr h)
    fun c hd => absurd hd (he.1 c)).sameAttempts

/-- non-vacuity: connected after a refused connect and a failed pair-verify; twenty minutes later nothing more was tried -/
example :
    let s := run (init [1, 2]) [.pushTcp .refused, .pushVer .fail, .ensure 1 none, .adv (sec 30)]
    s.isConnected = true ∧ s.conn = .doneOk ∧ attempts (step s (.adv (sec 1200))) = attempts s := by decide

end HapVerif.Reconnect
