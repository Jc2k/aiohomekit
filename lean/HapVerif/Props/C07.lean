import HapVerif.Gen.Misc
import HapVerif.Proofs.HttpWriter
import HapVerif.Proofs.Bytes
import Mathlib.Data.List.Induction

/-! # C07 - HTTP/EVENT message parsing is independent of stream segmentation

`feed` is one `data_received(data)` call of `InsecureHomeKitProtocol` (the `while data:` loop around
`HttpResponse.parse`), `feedAll` a sequence of them.  Side condition `GoodRun`: no header block announces both
`Transfer-Encoding: chunked` and a positive `Content-Length` (the real parser is split-dependent on these). -/

namespace HapVerif.C07
open HapVerif HapVerif.Http

/-- one `parse` call: processing what is buffered, then receiving `d` and processing again, is the
    same as receiving `d` first -/
theorem C07_parse_append (p : P) (d : Bytes) (hg : GoodAt p) :
    (norm' p >>= fun p3 => norm' (app p3 d)) = norm' (app p d) :=
  norm_app p d hg

/-- a complete message consumes nothing more: the bytes that follow it stay in the buffer, in
    order, for the next message - never lost, never duplicated -/
theorem C07_complete_consumes_nothing (q : P) (d : Bytes) (hc : q.core.complete = true) (hw : WFc q.core) :
    norm' (app q d) = .ok ⟨q.core, q.raw ++ d⟩ :=
  complete_stable q d hc hw

/-- two reads = one read of the concatenation, from any parser state between reads -/
theorem C07_feed_append (p : P) (a b : Bytes) (hinv : INV p) (hg : GoodRun p a) :
    feed p (a ++ b) = seq2 (feed p a) (fun p1 => feed p1 b) :=
  feed_append _ p a b (Nat.le_refl _) hinv hg

/-- the invariant the theorems need is re-established by every read -/
theorem C07_invariant_preserved (p p1 : P) (d : Bytes) (o : List Msg) (hinv : INV p) (hg : GoodRun p d)
    (h : feed p d = (o, .ok p1)) : INV p1 := by
  induction hg generalizing o with
  | nil p => rw [feed_nil] at h; cases h; exact hinv
  | err p d e _ hn => rw [feed_step p d hinv, hn] at h; cases h
  | wait p p' d hg hn hc =>
    rw [feed_step p d hinv, hn] at h
    simp only [hc, Bool.false_eq_true, if_false] at h
    cases h
    exact INV_of_wait p _ d hinv hg hn hc
  | msg p p' d _ hn hc _ ih =>
    rw [feed_step p d hinv, hn] at h
    simp only [hc, if_true] at h
    exact ih _ INV_fresh (Prod.ext rfl (Prod.mk.inj h).2)

/-- the side condition on the whole stream suffices: every prefix inherits it (`GoodRun_of_append`) -/
theorem segmentation_of_goodRun : ∀ (chunks : List Bytes) (p : P), INV p → GoodRun p chunks.flatten →
    feedAll p chunks = feed p chunks.flatten := by
  intro chunks
  induction chunks using List.reverseRecOn with
  | nil => intro p _ _; simp [feedAll, feed_nil]
  | append_singleton cs c ih =>
    intro p hinv hg
    rw [List.flatten_append, List.flatten_singleton] at hg ⊢
    have hcs := GoodRun_of_append p _ hg hinv.wf cs.flatten c rfl
    rw [feedAll_snoc, ih p hinv hcs, C07_feed_append p cs.flatten c hinv hcs]

/-- **Segmentation independence**: however a byte stream is cut into reads (any number of cuts,
    anywhere - inside a status line, a header, a chunk size, a body, between messages), the
    sequence of completed messages, the final parser state and the error (if the stream is
    malformed) are those of a single read of the whole stream. -/
theorem C07_segmentation : ∀ (chunks : List Bytes) (p : P), INV p →
    (∀ k, k ≤ chunks.length → GoodRun p (chunks.take k).flatten) →
    feedAll p chunks = feed p chunks.flatten :=
  fun chunks p hinv hg => segmentation_of_goodRun chunks p hinv (by simpa using hg chunks.length (Nat.le_refl _))

/-- the same from a fresh connection -/
theorem C07_segmentation_fresh (chunks : List Bytes)
    (hg : ∀ k, k ≤ chunks.length → GoodRun {} (chunks.take k).flatten) :
    feedAll {} chunks = feed {} chunks.flatten :=
  C07_segmentation chunks {} INV_fresh hg

/-! ### correctness against an independent writer (`Spec/HttpWriter.lean`) -/

/-- one written message at the front of the buffer: the parser produces exactly that message (version, status
    code, headers in order, body) and leaves exactly the bytes that follow it -/
theorem C07_written_message_parsed (m : WMsg) (code : Nat) (g : Good m code) (rest : Bytes) :
    parse {} (write m ++ rest) = .ok (⟨m.core code, rest⟩, rest) ∧ (m.core code).msg = m.msg code := by
  refine ⟨?_, WMsg.core_msg m code⟩
  rw [parse_of_norm (p := {}) (part := write m ++ rest) (norm'_write m code g rest), WMsg.core_complete]
  rfl

/-- a whole stream of written messages in one read -/
theorem C07_written_stream_one_read (ms : List (WMsg × Nat)) (hg : ∀ x ∈ ms, Good x.1 x.2) :
    feed {} (writeAll ms) = (ms.map (fun x => x.1.msg x.2), .ok {}) := by
  simpa [feed_nil] using feed_writeAll ms hg []

/-- **Correctness for every segmentation**: a stream of messages written by a conformant accessory, delivered in
    reads cut anywhere at all, yields exactly those messages - in order, none lost, none duplicated, none merged,
    bodies byte-exact - and leaves a fresh parser with an empty buffer.  (The side condition of
    `C07_segmentation` is *proved* for every prefix of such a stream, not assumed.) -/
theorem C07_written_stream_any_segmentation (ms : List (WMsg × Nat)) (hg : ∀ x ∈ ms, Good x.1 x.2)
    (chunks : List Bytes) (h : chunks.flatten = writeAll ms) :
    feedAll {} chunks = (ms.map (fun x => x.1.msg x.2), .ok {}) := by
  rw [segmentation_of_goodRun chunks {} INV_fresh (h ▸ GoodRun_writeAll ms hg), h, C07_written_stream_one_read ms hg]

/-- the same under the executable well-formedness check the driver applies to the harness's messages -/
theorem C07_written_stream_checked (ms : List (WMsg × Nat)) (hg : ms.all (fun x => goodB x.1 x.2) = true)
    (chunks : List Bytes) (h : chunks.flatten = writeAll ms) :
    feedAll {} chunks = (ms.map (fun x => x.1.msg x.2), .ok {}) :=
  C07_written_stream_any_segmentation ms
    (fun x hx => goodB_sound x.1 x.2 (List.all_eq_true.mp hg x hx)) chunks h

/-! non-vacuity: a typical HAP response, an event, a body-less reply and a chunked reply satisfy `Good` -/

def exResp : WMsg :=
  { version := str "HTTP/1.1", codeText := str "207", reason := str "Multi-Status",
    headers := [(str "content-type", str "  application/hap+json ")], framing := .length (str "Content-Length", str " 2"),
    after := [], body := str "{}" }
def exEvent : WMsg :=
  { version := str "EVENT/1.0", codeText := str "200", reason := str "OK",
    headers := [], framing := .length (str "content-length", str "4"),
    after := [(str "content-type", str "  application/hap+json ")], body := str "null" }
def exNoBody : WMsg :=
  { version := str "HTTP/1.1", codeText := str "204", reason := str "No Content", headers := [], framing := .none, after := [], body := [] }
def exChunked : WMsg :=
  { version := str "HTTP/1.1", codeText := str "200", reason := str "OK",
    headers := [(str "content-type", str "  application/hap+json ")],
    framing := .chunked (str "Transfer-Encoding", str " chunked") [(str "a", str "{\"accessor"), (str "21", str "ies\":[{\"aid\":1,\"services\":[]}]}\r\n")],
    after := [],
    body := str "{\"accessories\":[{\"aid\":1,\"services\":[]}]}\r\n" }

/-- the lower-case, padded `content-type` header reaches the application as `Content-Type` / `application/hap+json` -/
example : normHeader (str "content-type", str "  application/hap+json ") = (str "Content-Type", str "application/hap+json") := by
  decide +kernel

theorem exEvent_good : Good exEvent 200 := goodB_sound _ _ (by decide +kernel)
theorem exChunked_good : Good exChunked 200 := goodB_sound _ _ (by decide +kernel)

example : Good exResp 207 := goodB_sound _ _ (by decide +kernel)
example : Good exEvent 200 := exEvent_good
example : Good exNoBody 204 := goodB_sound _ _ (by decide +kernel)
example : Good exChunked 200 := exChunked_good

theorem flatten_cut3 (s : Bytes) (i j : Nat) : [s.take i, (s.drop i).take j, s.drop (i + j)].flatten = s := by
  simp [← List.drop_drop]

/-- the theorem at work: the chunked reply followed by the event, cut into three reads in the middle of a chunk size
    and of the event's status line -/
example : feedAll {} [(writeAll [(exChunked, 200), (exEvent, 200)]).take 99,
      ((writeAll [(exChunked, 200), (exEvent, 200)]).drop 99).take 50, (writeAll [(exChunked, 200), (exEvent, 200)]).drop 149] =
    ([exChunked.msg 200, exEvent.msg 200], .ok {}) :=
  C07_written_stream_any_segmentation [(exChunked, 200), (exEvent, 200)]
    (by simp [exChunked_good, exEvent_good]) _ (flatten_cut3 _ 99 50)

/-! ### non-vacuity: a concrete stream (one fixed-length HTTP response followed by a chunked EVENT)
cut inside the status line and inside a chunk -/

def exStream : Bytes :=
  str "HTTP/1.1 200 OK\r\nContent-Length: 2\r\n\r\nhiEVENT/1.0 200 OK\r\nTransfer-Encoding: chunked\r\n\r\n3\r\nabc\r\n0\r\n\r\n"

example : (feed {} exStream).1 =
    [⟨str "HTTP", 200, [(str "Content-Length", str "2")], str "hi"⟩,
     ⟨str "EVENT", 200, [(str "Transfer-Encoding", str "chunked")], str "abc"⟩] := by
  rw [exStream, str_ofList]
  decide +kernel

example : feedAll {} [exStream.take 7, (exStream.drop 7).take 80, exStream.drop 87] = feed {} exStream := by
  rw [exStream, str_ofList]
  decide +kernel

/-- tie to the source (regenerated on every run from `HttpResponse.parse`): the framing headers and the value the
    parser compares against, and the byte literals it searches for / splits at -/
theorem C07_gen_tie :
    Gen.Misc.httpCompared = [("name", "Transfer-Encoding"), ("value", "chunked"), ("name", "Content-Length")] ∧
    Gen.Misc.httpByteLiterals = ["", "\r\n", " ", ":"] := ⟨rfl, rfl⟩

end HapVerif.C07
