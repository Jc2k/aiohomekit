import HapVerif.Model.Request
import HapVerif.Spec.IosRequest
import HapVerif.Gen.Request
import HapVerif.Proofs.Bytes

/-! # C09 - requests are written byte-for-byte in the canonical iOS form -/

namespace HapVerif.C09
open HapVerif HapVerif.Request

theorem joinCRLF_cons (x : Bytes) {ls : List Bytes} (h : ls ≠ []) : joinCRLF (x :: ls) = x ++ crlf ++ joinCRLF ls := by
  cases ls with
  | nil => exact absurd rfl h
  | cons y ys => rfl

/-- `"\r\n".join(lines + ["", ""])`, bracketed to the left as a chain of `++` is read -/
theorem joinCRLF_lines (ls : List Bytes) (acc : Bytes) :
    acc ++ joinCRLF (ls ++ [[], []]) = ls.foldl (fun acc l => acc ++ l ++ crlf) acc ++ crlf := by
  induction ls generalizing acc with
  | nil => rfl
  | cons x ls ih =>
    rw [List.cons_append, joinCRLF_cons x (by simp), List.foldl_cons, ← ih, List.append_assoc, List.append_assoc,
      List.append_assoc]

theorem build_eq (method target host : Bytes) (headers : List (Bytes × Bytes)) (body : Bytes) :
    build method target host headers body =
      ((method ++ str " " ++ target ++ str " HTTP/1.1") :: hostHeader host ::
        headers.map fun hv => hv.1 ++ str ": " ++ hv.2).foldl (fun acc l => acc ++ l ++ crlf) [] ++ crlf ++ body := by
  rw [build, ← joinCRLF_lines]
  rfl

theorem lit_cl : str "Content-Length" ++ str ": " = str "Content-Length: " := by
  rw [str_ofList, str_ofList, str_ofList]
  decide +kernel
theorem lit_ct : str "Content-Type" ++ str ": " = str "Content-Type: " := by
  rw [str_ofList, str_ofList, str_ofList]
  decide +kernel

/-- **GET**: request line, Host, blank line - and nothing else, for every target and host. -/
theorem C09_bytes_get (target host : Bytes) :
    getReq target host = Spec.IosRequest.bodyless (str "GET") target host :=
  (build_eq ..).trans (List.append_nil _)

/-- **PUT / POST**: request line, Host, Content-Length, Content-Type (in that order), blank line,
    body - byte for byte, for every method, target, host, content type and body. -/
theorem C09_bytes_with_body (method target host ctype : Bytes) (body : Bytes) :
    withBody method target host ctype body = Spec.IosRequest.withBody method target host ctype body := by
  rw [withBody, build_eq, Spec.IosRequest.withBody, ← lit_cl, ← lit_ct]
  simp only [List.foldl_cons, List.foldl_nil, List.map_cons, List.map_nil, List.nil_append, ← List.append_assoc]
  rfl

/-- **Header order and nothing else**: between the Host line and the blank line there are exactly
    the headers passed, in the order passed (for `put`/`post`: Content-Length, then Content-Type). -/
theorem C09_header_order (method target host : Bytes) (h1 h2 : Bytes × Bytes) (body : Bytes) :
    build method target host [h1, h2] body =
      (method ++ str " " ++ target ++ str " HTTP/1.1") ++ crlf ++ hostHeader host ++ crlf ++
      (h1.1 ++ str ": " ++ h1.2) ++ crlf ++ (h2.1 ++ str ": " ++ h2.2) ++ crlf ++ crlf ++ body :=
  build_eq ..

/-- **Host**: bracketed exactly when the literal contains ':' (IPv6, scoped or not), never a port -/
theorem C09_host (host : Bytes) :
    hostHeader host = if host.contains 58 then str "Host: [" ++ host ++ str "]" else str "Host: " ++ host := rfl

/-- no bare LF, reading left to right with the previous byte in hand -/
def nb : Option UInt8 → Bytes → Bool
  | _, [] => true
  | p, b :: t => (b != 10 || p == some 13) && nb (some b) t

def lastOr (p : Option UInt8) (l : Bytes) : Option UInt8 :=
  match l.getLast? with
  | some b => some b
  | none => p

theorem lastOr_cons (p : Option UInt8) (x : UInt8) (t : Bytes) : lastOr p (x :: t) = lastOr (some x) t := by
  rw [lastOr, List.getLast?_cons, lastOr]
  cases t.getLast? <;> rfl

theorem nb_append : ∀ (a b : Bytes) (p : Option UInt8), nb p (a ++ b) = (nb p a && nb (lastOr p a) b)
  | [], b, p => rfl
  | x :: t, b, p => by rw [List.cons_append, nb, nb, nb_append t b (some x), lastOr_cons, Bool.and_assoc]

/-- a piece without CR and LF -/
def Clean (l : Bytes) : Prop := ∀ b ∈ l, b ≠ 10 ∧ b ≠ 13

instance (l : Bytes) : Decidable (Clean l) := by unfold Clean; infer_instance

theorem nb_clean (l : Bytes) (p : Option UInt8) (h : Clean l) : nb p l = true := by
  induction l generalizing p with
  | nil => rfl
  | cons x t ih =>
    obtain ⟨hx, ht⟩ := List.forall_mem_cons.mp h
    rw [nb, ih _ ht, bne_iff_ne.mpr hx.1]
    rfl

theorem nb_crlf (p : Option UInt8) : nb p crlf = true := rfl

theorem lastOr_crlf (p : Option UInt8) : lastOr p crlf = some 10 := by simp [lastOr, crlf]

theorem nb_lines (ls : List Bytes) (h : ∀ l ∈ ls, Clean l) : nb none (ls.foldl (fun acc l => acc ++ l ++ crlf) []) = true :=
  List.foldlRecOn (motive := (nb none · = true)) ls _ rfl fun acc hacc l hl => by
    rw [nb_append, nb_append, hacc, nb_clean l _ (h l hl), nb_crlf]
    rfl

theorem clean_append (a b : Bytes) (ha : Clean a) (hb : Clean b) : Clean (a ++ b) :=
  List.forall_mem_append.mpr ⟨ha, hb⟩

theorem clean_hostHeader (host : Bytes) (h : Clean host) : Clean (hostHeader host) := by
  unfold hostHeader
  split
  · exact clean_append _ _ (clean_append _ _ (by decide +kernel) h) (by decide +kernel)
  · exact clean_append _ _ (by decide +kernel) h

/-- **CRLF only**: if method, target, host and the header names and values contain no CR and no LF, then in everything
    the request puts before the body every LF is immediately preceded by a CR - there is no bare LF (and, the pieces
    being clean, no CR that is not followed by LF either: the only CRs are those of the CRLF separators) -/
theorem C09_crlf_only (method target host : Bytes) (headers : List (Bytes × Bytes))
    (hm : Clean method) (ht : Clean target) (hh : Clean host) (hhs : ∀ h ∈ headers, Clean h.1 ∧ Clean h.2) :
    nb none (build method target host headers []) = true := by
  rw [build_eq, List.append_nil, nb_append, nb_crlf, Bool.and_true]
  refine nb_lines _ (List.forall_mem_cons.mpr ⟨?_, List.forall_mem_cons.mpr ⟨clean_hostHeader host hh,
    List.forall_mem_map.mpr fun h hh' => ?_⟩⟩)
  · exact clean_append _ _ (clean_append _ _ (clean_append _ _ hm (by decide +kernel)) ht) (by decide +kernel)
  · exact clean_append _ _ (clean_append _ _ (hhs h hh').1 (by decide +kernel)) (hhs h hh').2

example : nb none (getReq (str "/accessories") (str "10.0.0.1")) = true := by decide +kernel
example : nb none (str "GET / HTTP/1.1\nHost: x\r\n\r\n") = false := by
  rw [str_ofList]
  decide +kernel

/-- **Characteristic ids**: `aid.iid` joined by commas -/
theorem C09_ids (ids : List (Int × Int)) :
    charUrl ids = "/characteristics?id=" ++ ",".intercalate (ids.map fun k => toString k.1 ++ "." ++ toString k.2) := rfl

example : getReq (str "/accessories") (str "fe80::1%en0") = str "GET /accessories HTTP/1.1\r\nHost: [fe80::1%en0]\r\n\r\n" := by
  conv =>
    rhs
    rw [str_ofList]
  decide +kernel
example : withBody (str "PUT") (str "/characteristics") (str "10.0.0.2") (str "application/hap+json") (str "{}") =
    str "PUT /characteristics HTTP/1.1\r\nHost: 10.0.0.2\r\nContent-Length: 2\r\nContent-Type: application/hap+json\r\n\r\n{}" := by
  conv =>
    rhs
    rw [str_ofList]
  decide +kernel

/-- tie to the source (regenerated on every run from `HomeKitConnection.request / get / put / post`, `_connect_once`
    and `HttpContentTypes`): the request line and Host header come first, then one `name: value` line per header, then
    two empty strings, joined by CRLF; the body is appended only when there is one; the whole request goes to the
    protocol in ONE call; `get` passes no headers, `put` and `post` pass Content-Length then Content-Type (defaults
    JSON resp. TLV); IPv6 literals are bracketed and no port is written -/
theorem C09_gen_tie :
    Gen.Request.buffer0 = ["{method.upper()} {target} HTTP/1.1", "{self.host_header}"] ∧
    Gen.Request.appends = ["{header}: {value}", "", ""] ∧
    Gen.Request.join = "\r\n" ∧ Gen.Request.bodyGuard = ["body"] ∧
    Gen.Request.sends = ["self.protocol.send_bytes(request_bytes)"] ∧
    (Gen.Request.getMethod, Gen.Request.getHeaders) = ("GET", []) ∧
    (Gen.Request.putMethod, Gen.Request.putHeaders, Gen.Request.putDefaults) =
      ("PUT", [("Content-Length", "len(body)"), ("Content-Type", "content_type.value")], ["HttpContentTypes.JSON"]) ∧
    (Gen.Request.postMethod, Gen.Request.postHeaders, Gen.Request.postDefaults) =
      ("POST", [("Content-Length", "len(body)"), ("Content-Type", "content_type.value")], ["HttpContentTypes.TLV"]) ∧
    Gen.Request.hostHeader = [("':' in connected_host", "Host: [{connected_host}]"), ("else", "Host: {connected_host}")] ∧
    Gen.Request.contentTypes = [("JSON", "application/hap+json"), ("TLV", "application/pairing+tlv8")] :=
  ⟨rfl, rfl, rfl, rfl, rfl, rfl, rfl, rfl, rfl, rfl⟩

/-- and the model builds requests from exactly those pieces -/
theorem C09_model_uses_source_pieces (target host ctype body : Bytes) :
    getReq target host = build (str Gen.Request.getMethod) target host [] [] ∧
    withBody (str Gen.Request.putMethod) target host ctype body =
      build (str "PUT") target host ((Gen.Request.putHeaders.map (·.1)).zip [str (toString body.length), ctype] |>.map
        (fun r => (str r.1, r.2))) body ∧
    withBody (str Gen.Request.postMethod) target host ctype body =
      build (str "POST") target host ((Gen.Request.postHeaders.map (·.1)).zip [str (toString body.length), ctype] |>.map
        (fun r => (str r.1, r.2))) body := ⟨rfl, rfl, rfl⟩

/-! ## Subscribe / unsubscribe payloads: exactly the ids of the call, each once, in order -/

/-- **Every id the caller asked for reaches the wire exactly once, in the caller's order**: the payloads of the
    requests `_update_subscriptions` sends, concatenated, are the argument list - nothing added (no id of an earlier
    call), nothing dropped, nothing repeated - whatever mix of accessory ids the caller passes. -/
theorem C09_subscribe_payloads_flatten (ids : List (Nat × Nat)) : (groupByAid ids).flatten = ids := by
  fun_induction groupByAid ids
  next => rfl
  -- every branch puts `x` in front of the rest
  all_goals
    rename_i hg ih
    rw [← ih, hg]
    rfl

/-- every request names a single accessory id (one aid at a time, as iOS does) and is never empty -/
theorem C09_subscribe_payload_single_aid (ids : List (Nat × Nat)) :
    ∀ g ∈ groupByAid ids, g ≠ [] ∧ ∀ a ∈ g, ∀ b ∈ g, a.1 = b.1 := by
  have one : ∀ x : Nat × Nat, [x] ≠ [] ∧ ∀ a ∈ [x], ∀ b ∈ [x], a.1 = b.1 := fun x =>
    ⟨List.cons_ne_nil _ _, fun a ha b hb => by rw [List.mem_singleton.mp ha, List.mem_singleton.mp hb]⟩
  fun_induction groupByAid ids
  next => nofun
  -- `x` is the only item
  next x xs hg ih => exact List.forall_mem_singleton.mpr (one x)
  -- an empty first group: `ih` excludes it
  next x xs gs hg ih => exact absurd rfl (ih [] (hg ▸ List.mem_cons_self)).1
  -- `x` joins the first group
  next x xs gs y ys hxy hg ih =>
    rw [hg, List.forall_mem_cons] at ih
    have hy : ∀ c ∈ x :: y :: ys, c.1 = y.1 :=
      List.forall_mem_cons.mpr ⟨hxy, fun c hc => ih.1.2 c hc y List.mem_cons_self⟩
    exact List.forall_mem_cons.mpr ⟨⟨List.cons_ne_nil _ _, fun a ha b hb => (hy a ha).trans (hy b hb).symm⟩, ih.2⟩
  -- `x` opens a group of its own
  next x xs gs y ys _ hg ih => exact List.forall_mem_cons.mpr ⟨one x, hg ▸ ih⟩

example : groupByAid [(1, 9), (1, 10), (2, 9), (1, 11)] = [[(1, 9), (1, 10)], [(2, 9)], [(1, 11)]] := by decide

end HapVerif.C09
