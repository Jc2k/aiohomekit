import HapVerif.Proofs.ReqConn

/-! # C08 - every request gets its own response or a prompt disconnection error

Statements over the FIFO attribution automaton `HapVerif.ReqConn` (tied to
`aiohomekit/controller/ip/connection.py` by the differential harness `harness/c08.py`). -/

namespace HapVerif.ReqConn

/-! ## attribution -/

/-- a response completes exactly the oldest outstanding request, with that response; nothing else completes
    (the only other effect is that callers blocked on the semaphore get to send) -/
theorem C08_response_completes_oldest (s : St) (x : Nat) (p : Pending) (ps : List Pending)
    (hup : s.up = true) (hpart : s.part = none) (hq : s.inflight = p :: ps) :
    ∃ sents, (∀ o ∈ sents, isSent o) ∧
      (step s (.resp x)).obs = s.obs ++ Obs.done p.id (.ok x) s.now :: sents ∧
      (step s (.resp x)).up = true ∧
      ∃ moved, (step s (.resp x)).inflight = ps ++ moved := by
  rw [step_resp x hup hpart, deliverResp_cons s x hq, letThrough_eq]
  exact ⟨_, mem_map_sent, List.append_assoc .., hup, _, rfl⟩

/-- the same for a response that arrived in two parts -/
theorem C08_split_response_completes_oldest (s : St) (x : Nat) (p : Pending) (ps : List Pending)
    (hup : s.up = true) (hpart : s.part = some (.resp x)) (hq : s.inflight = p :: ps) :
    ∃ sents, (∀ o ∈ sents, isSent o) ∧
      (step s .rest).obs = s.obs ++ Obs.done p.id (.ok x) s.now :: sents := by
  rw [step_rest_resp hup hpart, deliverResp_cons { s with part := none } x hq, letThrough_eq]
  exact ⟨_, mem_map_sent, List.append_assoc ..⟩

/-- an EVENT, whole or split, goes to the listeners and never touches the request queue -/
theorem C08_event_never_consumed (s : St) (e : Nat) :
    (step s (.event e)).inflight = s.inflight ∧ (step s (.event e)).waiting = s.waiting ∧
    (step s (.event e)).up = s.up ∧
    (step s (.event e)).obs = (if !s.up || s.part.isSome then s.obs else s.obs ++ [.event e]) ∧
    (s.up = true → s.part = some (.event e) →
      (step s .rest).inflight = s.inflight ∧ (step s .rest).waiting = s.waiting ∧
      (step s .rest).obs = s.obs ++ [.event e]) := by
  refine ⟨?_, ?_, ?_, ?_, fun hup hp => step_rest_event hup hp ▸ ⟨rfl, rfl, rfl⟩⟩
  all_goals
    rw [step_event]
    split <;> rfl

/-- an unsolicited response (nothing outstanding) makes the connection be abandoned -/
theorem C08_unsolicited_abandons (s : St) (x : Nat) (hup : s.up = true) (hpart : s.part = none)
    (hq : s.inflight = []) : (step s (.resp x)).up = false := by
  rw [step_resp x hup hpart, deliverResp_nil s x hq]
  rfl

/-! ## abandonment -/

/-- abandoning a connection fails every outstanding request - in flight or waiting for its turn - at that very
    instant: the cancelled caller with its own cancellation, every other one with a disconnection error -/
theorem C08_abandon_fails_all (s : St) (c : Option ReqId) :
    (abandon s c).up = false ∧ (abandon s c).inflight = [] ∧ (abandon s c).waiting = [] ∧
    (abandon s c).part = none ∧
    (∀ id, (id ∈ s.inflight.map (·.id) ∨ id ∈ s.waiting) →
      Obs.done id (if c = some id then .cancelled else .disconnected) s.now ∈ (abandon s c).obs) :=
  ⟨rfl, rfl, rfl, rfl, abandon_fails s c⟩

/-- whatever the event, if it takes the connection down then nothing is left outstanding: every request that was
    in flight or waiting has failed, with a disconnection error (or its own cancellation), by the end of the step -/
theorem C08_loss_is_total (s : St) (e : Ev) (hup : s.up = true) (hdown : (step s e).up = false) :
    (step s e).inflight = [] ∧ (step s e).waiting = [] ∧ (step s e).part = none ∧
    ∀ id, (id ∈ s.inflight.map (·.id) ∨ id ∈ s.waiting) →
      ∃ o t, Obs.done id o t ∈ (step s e).obs ∧ (o = .disconnected ∨ o = .cancelled) ∧ t ≤ (step s e).now := by
  obtain ⟨c, t, n, htn, h⟩ := (step_spec s e).down hup hdown
  rw [h]
  refine ⟨rfl, rfl, rfl, fun id hid => ⟨_, t, abandon_fails { s with now := t } c id hid, ?_, htn⟩⟩
  split
  · exact .inr rfl
  · exact .inl rfl

/-- once the connection is down, nothing the accessory still sends on it has any effect - no request can receive
    a stale response - and a new request fails at once with a disconnection error -/
theorem C08_down_ignores_data (s : St) (hdown : s.up = false) (x : Nat) (p : Part) (id : ReqId) :
    step s (.resp x) = s ∧ step s (.event x) = s ∧ step s (.half p) = s ∧ step s .rest = s ∧
    step s .peerClose = s ∧
    step s (.req id) = emit s [.done id .disconnected s.now] := by
  simp [step, hdown]

/-! ## invariants of every reachable state -/

/-- in every reachable state: a dead connection has nothing outstanding and no half-received message; the
    number of requests in flight respects the concurrency limit, and callers wait only when it is reached;
    no request in flight is overdue, and each times out at most 30 s after it was sent -/
theorem C08_invariant (limit : Nat) (evs : List Ev) : Inv (run (init limit) evs) :=
  List.foldlRecOn evs step ⟨nofun, Nat.zero_le _, fun h => absurd rfl h, nofun⟩ fun s hs e _ => (step_spec s e).inv hs

/-- a request in flight whose 30 s have passed cannot survive time advancing past its deadline -/
theorem C08_timeout_fires (limit : Nat) (evs : List Ev) (dt : Nat) :
    ∀ p ∈ (step (run (init limit) evs) (.adv dt)).inflight,
      (run (init limit) evs).now + dt < p.deadline :=
  step_adv_inflight _ dt

/-- if every caller uses its own request id, no request ever completes twice, and a completed request is no
    longer outstanding -/
theorem C08_at_most_once (limit : Nat) (evs : List Ev) (hfresh : ∀ id, issued evs id ≤ 1) (id : ReqId) :
    (doneIds (run (init limit) evs)).count id ≤ 1 ∧
    ((doneIds (run (init limit) evs)).count id = 1 → id ∉ outIds (run (init limit) evs)) := by
  have h : _ + _ ≤ 0 + _ := run_cnt (init limit) evs id
  have := hfresh id
  refine ⟨by omega, fun h1 hm => ?_⟩
  have := List.count_pos_iff.mpr hm
  omega

/-- **Attribution over whole histories.**  If the accessory answers in order, then in every history - any
    interleaving of requests, events, split messages, cancellations, timeouts, closes and reconnections - every
    request that completes with a response completes with the response that was sent for it -/
theorem C08_history_attribution (limit : Nat) (evs : List Ev) (h : InOrder (init limit) evs = true) :
    ∀ id x t, Obs.done id (.ok x) t ∈ (run (init limit) evs).obs → x = id :=
  (run_ainv evs _ ⟨fun _ hx => (by cases hx), fun _ _ _ hm => (by cases hm)⟩ h).oks

/-- non-vacuity: the premise is met by a history with concurrent callers, an event and a split response -/
example : InOrder (init 2) [.req 1, .req 2, .event 7, .half (.resp 1), .req 3, .rest, .resp 2, .resp 3] = true := by
  decide +kernel

/-- non-vacuity: two callers on a connection with limit 1; an event between request and response; the first
    response completes caller 1, caller 2 is then sent; its timeout abandons the connection; a late response is
    ignored and a third request fails at once -/
example :
    (run (init 1) [.req 1, .req 2, .event 7, .resp 101, .adv (31 * 8192), .resp 102, .req 3]).obs =
    [.sent 1 0, .event 7, .done 1 (.ok 101) 0, .sent 2 0, .lost 0 245760, .done 2 .disconnected 245760,
     .done 3 .disconnected 253952] := by decide +kernel

/-! ## Inside one loop iteration (`ReqConn.Micro`): position-based attribution survives cancellations that have not
been cleaned up yet -/

section
open Micro (settle Entry)

/-- **Position-based attribution, at every instant**: in every history of writes, reads, cancellations that have
    not been cleaned up yet and loop iterations, a caller that completes with the k-th response read on the connection
    is the caller whose request was the k-th written on it. -/
theorem C08_micro_position (evs : List Micro.Ev) (id k : Nat) (h : (id, Micro.Outcome.ok k) ∈ (Micro.run {} evs).log) :
    (id, k) ∈ (Micro.run {} evs).wrote :=
  (Micro.run_inv evs).logWrote id k h

/-- the positions of the written requests are distinct, so **no caller ever completes with the response that was
    sent for another caller's request** - in particular not the caller next in line when the head has been
    cancelled and its response arrives before its task has closed the transport -/
theorem C08_micro_no_stale (evs : List Micro.Ev) (a b k : Nat) (ha : (a, k) ∈ (Micro.run {} evs).wrote)
    (hb : (b, Micro.Outcome.ok k) ∈ (Micro.run {} evs).log) : ∃ i j : Nat, (Micro.run {} evs).wrote[i]? = some (a, k) ∧
      (Micro.run {} evs).wrote[j]? = some (b, k) ∧ i = j := by
  have hinv := Micro.run_inv evs
  obtain ⟨i, hi⟩ := List.getElem?_of_mem ha
  obtain ⟨j, hj⟩ := List.getElem?_of_mem (hinv.logWrote b k hb)
  exact ⟨i, j, hi, hj, (hinv.idx_eq hi : k = i).symm.trans (hinv.idx_eq hj : k = j)⟩

/-- a response read while the head of the queue has already given up **completes nobody**: it is discarded, and
    the caller that gave up will close the transport when its task runs -/
theorem C08_micro_stale_response_dropped (s : Micro.St) (e : Entry) (rest : List Entry) (hup : s.up = true)
    (hf : s.fifo = e :: rest) (hg : e.gaveUp = true) :
    (Micro.step s .deliver).pendingDone = s.pendingDone ∧ (Micro.step s .deliver).log = s.log ∧
    (Micro.step s .deliver).fifo = rest ∧ e.id ∈ (Micro.step s .deliver).closers := by
  simp [Micro.step, hup, hf, hg]

/-- and once the loop runs, everything still waiting fails with a disconnection error and the transport is closed -/
theorem C08_micro_give_up_closes (s : Micro.St) (h : (s.fifo.filter (·.gaveUp)) ≠ [] ∨ s.closers ≠ []) :
    (settle s).up = false ∧ (settle s).fifo = [] ∧
    ∀ e ∈ s.fifo, e.gaveUp = false → (e.id, Micro.Outcome.disconnected) ∈ (settle s).log := by
  have hc : (!s.closers.isEmpty || !(s.fifo.filter (·.gaveUp)).isEmpty || !s.up) = true := by
    simp only [Bool.or_eq_true, Bool.not_eq_true', List.isEmpty_eq_false_iff]
    exact .inl h.symm
  unfold settle
  simp only [hc, ↓reduceIte]
  refine ⟨trivial, trivial, fun e he hg => ?_⟩
  exact List.mem_append_right _ (List.mem_map.mpr ⟨e, List.mem_filter.mpr ⟨he, by simp [hg]⟩, rfl⟩)

/-- non-vacuity, the schedule of a stale hand-over: A and B are written, A is cancelled, A's response is read in the
    same loop iteration: nobody completes with it, and when the loop runs A is cancelled and B fails -/
example : (Micro.run {} [.write 1, .write 2, .giveUp 1, .deliver, .tick]).log = [(1, .cancelled), (2, .disconnected)] := by
  decide

end

/-! ## The request slot across a reconnection (`ReqConn.Queue`) -/

/-- **A request is only ever written on the connection it was issued on** - in every history of callers, answers, session
    losses, reconnections by the supervisor and loop runs, with the slot handed from caller to caller in between: a request
    that was still queued when its connection was lost is never sent on the connection that replaces it (which, in the real
    library, is not even encrypted yet). -/
theorem C08_queue_sent_on_issue_connection (evs : List Queue.Ev) :
    ∀ p ∈ (Queue.run true {} evs).sent, p.2.1 = p.2.2 :=
  (Queue.run_inv evs).sent

/-- the code as found on the unchanged tree (it only asked whether SOME protocol exists) does not have this property:
    request 2, issued and queued on connection 0, goes out on connection 1 when the session is lost and the supervisor
    reconnects before the loop lets the queued caller run - kernel-checked witness of the defect repaired in /repo -/
theorem C08_queue_counterexample_unguarded :
    (Queue.run false {} [.issue 1, .issue 2, .lose, .reconnect, .tick]).sent = [(1, 0, 0), (2, 1, 0)] := by decide

/-- ... and with the guard the same history fails both requests with a disconnection error and writes nothing more -/
theorem C08_queue_lost_requests_fail :
    (Queue.run true {} [.issue 1, .issue 2, .lose, .reconnect, .tick]).sent = [(1, 0, 0)] ∧
    (Queue.run true {} [.issue 1, .issue 2, .lose, .reconnect, .tick]).log =
      [(1, Queue.Outcome.disconnected), (2, Queue.Outcome.disconnected)] := by decide

/-- **every outstanding request fails once the loop runs, however fast the supervisor reconnects**: in any reachable state
    with a live session, when the session is lost and the next connection is installed before any caller has run, then after
    the loop has run the request that was on the wire and every request that was queued for the slot have failed with a
    disconnection error, nothing has been written on the new connection, and the slot is free -/
theorem C08_queue_outstanding_fail (evs : List Queue.Ev) (hup : (Queue.run true {} evs).up = true)
    (hf : (Queue.run true {} evs).failing = none) :
    let s := Queue.run true {} evs
    let s' := Queue.settle true (Queue.step true (Queue.step true s .lose) .reconnect)
    s'.holder = none ∧ s'.queue = [] ∧ s'.sent = s.sent ∧
    (∀ q ∈ s.queue, (q.1, Queue.Outcome.disconnected) ∈ s'.log) ∧
    (∀ h, s.holder = some h → (h.1, Queue.Outcome.disconnected) ∈ s'.log) :=
  Queue.outstanding_fail _ hup (Queue.run_inv evs).queue

/-- non-vacuity of the hypotheses: a live session with one request on the wire and two queued -/
example : (Queue.run true {} [.issue 1, .issue 2, .issue 3]).up = true ∧ (Queue.run true {} [.issue 1, .issue 2, .issue 3]).failing = none ∧
    (Queue.run true {} [.issue 1, .issue 2, .issue 3]).queue = [(2, 0), (3, 0)] := by decide

end HapVerif.ReqConn
