import HapVerif.Model.Counters
import HapVerif.Gen.Misc

/-! # C06 - no nonce is reused and no encrypted message is accepted twice or out of order -/

namespace HapVerif.C06
open HapVerif.Counters

theorem sealedOf_append (a b : List Obs) : sealedOf (a ++ b) = sealedOf a ++ sealedOf b := List.filterMap_append
theorem acceptedOf_append (a b : List Obs) : acceptedOf (a ++ b) = acceptedOf a ++ acceptedOf b := List.filterMap_append

theorem sealedOf_map_sealed (l : List Nat) : sealedOf (l.map Obs.sealed) = l :=
  (List.filterMap_map ..).trans List.filterMap_some
theorem acceptedOf_map_sealed (l : List Nat) : acceptedOf (l.map Obs.sealed) = [] :=
  (List.filterMap_map ..).trans (List.filterMap_eq_nil_iff.mpr fun _ _ => rfl)

/-- the step from `s` with result `r` sealed `k` nonces and accepted `a` messages -/
structure StepObs (s : St) (r : St × List Obs) (k a : Nat) : Prop where
  sealed : sealedOf r.2 = List.range' s.sendCtr k
  send : r.1.sendCtr = s.sendCtr + k
  accepted : acceptedOf r.2 = List.range' s.recvCtr a
  recv : r.1.recvCtr = s.recvCtr + a

theorem step_spec (s : St) (e : Ev) : ∃ k a, StepObs s (step s e) k a := by
  fun_cases step s e
  -- send
  next n => exact ⟨n, 0, sealedOf_map_sealed _, rfl, acceptedOf_map_sealed _, rfl⟩
  -- deliver: closed; the genuine next message; another genuine one; corrupt
  next => exact ⟨0, 0, rfl, rfl, rfl, rfl⟩
  next => exact ⟨0, 1, rfl, rfl, rfl, rfl⟩
  next => exact ⟨0, 0, rfl, rfl, rfl, rfl⟩
  next => exact ⟨0, 0, rfl, rfl, rfl, rfl⟩
  -- abort: alive; closed already
  next => exact ⟨0, 0, rfl, rfl, rfl, rfl⟩
  next => exact ⟨0, 0, rfl, rfl, rfl, rfl⟩

/-- **IP / BLE, every history**: the nonces used for sealing under one key are exactly
    `send₀, send₀+1, …` (so no two are equal), and the accepted messages are exactly the
    accessory's `recv₀, recv₀+1, …` - each once, in order, a prefix of what it sent. -/
theorem C06_ip_ble_history (evs : List Ev) (s : St) :
    ∃ k a, sealedOf (run s evs) = List.range' s.sendCtr k ∧ acceptedOf (run s evs) = List.range' s.recvCtr a := by
  induction evs generalizing s with
  | nil => exact ⟨0, 0, rfl, rfl⟩
  | cons e es ih =>
    obtain ⟨k1, a1, h⟩ := step_spec s e
    obtain ⟨k2, a2, hs, ha⟩ := ih (step s e).1
    refine ⟨k1 + k2, a1 + a2, ?_, ?_⟩
    · rw [run, sealedOf_append, h.sealed, hs, h.send, List.range'_append_1]
    · rw [run, acceptedOf_append, h.accepted, ha, h.recv, List.range'_append_1]

/-- no nonce reuse under one key, for every history of sends, deliveries (genuine, replayed,
    future, corrupted), cancellations and timeouts -/
theorem C06_ip_ble_nonce_unique (evs : List Ev) (s : St) : (sealedOf (run s evs)).Nodup := by
  obtain ⟨k, _, h, _⟩ := C06_ip_ble_history evs s
  rw [h]
  exact List.nodup_range'

/-- each message accepted at most once and only in order -/
theorem C06_ip_ble_accept_once_in_order (evs : List Ev) (s : St) :
    (acceptedOf (run s evs)).Nodup ∧ ∃ a, acceptedOf (run s evs) = List.range' s.recvCtr a := by
  obtain ⟨_, a, _, h⟩ := C06_ip_ble_history evs s
  exact ⟨by rw [h]; exact List.nodup_range', a, h⟩

/-- after any failure nothing more is accepted under these keys (the connection is closed; the
    next session has fresh keys) -/
theorem C06_ip_ble_dead_accepts_nothing : ∀ (evs : List Ev) (s : St), s.alive = false → acceptedOf (run s evs) = [] := by
  intro evs s hs
  induction evs generalizing s with
  | nil => rfl
  | cons e es ih =>
    obtain ⟨sc, rc, al⟩ := s
    cases hs
    rw [run, acceptedOf_append]
    cases e with
    | send n =>
      rw [ih _ rfl, List.append_nil]
      exact acceptedOf_map_sealed _
    | _ => exact ih _ rfl

example : run {} [.send 2, .deliver (.genuine 0), .deliver (.genuine 0), .send 1, .deliver (.genuine 1)] =
    [.sealed 0, .sealed 1, .accepted 0, .closed, .sealed 2] := by decide +kernel

theorem ssealedOf_append (a b : List (Nat × Obs)) : ssealedOf (a ++ b) = ssealedOf a ++ ssealedOf b :=
  List.filterMap_append
theorem sacceptedOf_append (a b : List (Nat × Obs)) : sacceptedOf (a ++ b) = sacceptedOf a ++ sacceptedOf b :=
  List.filterMap_append

theorem ssealedOf_map (k : Nat) (l : List Obs) : ssealedOf (l.map (fun o => (k, o))) = (sealedOf l).map (fun n => (k, n)) := by
  rw [ssealedOf, sealedOf, List.filterMap_map, List.map_filterMap]
  exact congrArg (List.filterMap · l) (funext fun o => by cases o <;> rfl)
theorem sacceptedOf_map (k : Nat) (l : List Obs) : sacceptedOf (l.map (fun o => (k, o))) = (acceptedOf l).map (fun n => (k, n)) := by
  rw [sacceptedOf, acceptedOf, List.filterMap_map, List.map_filterMap]
  exact congrArg (List.filterMap · l) (funext fun o => by cases o <;> rfl)

/-- the shape of what a pairing in key set `e` at counter `c` goes on to seal (or accept) -/
def Fresh (e c : Nat) (o : List (Nat × Nat)) : Prop :=
  ∃ k later, o = (List.range' c k).map (fun n => (e, n)) ++ later ∧ later.Nodup ∧ ∀ p ∈ later, e < p.1

theorem Fresh.nodup {e c : Nat} {o : List (Nat × Nat)} (h : Fresh e c o) : o.Nodup := by
  obtain ⟨k, later, rfl, hn, hl⟩ := h
  refine List.nodup_append.mpr ⟨(List.nodup_range' (step := 1)).map _ fun _ _ h heq => h (congrArg Prod.snd heq), hn, ?_⟩
  rintro _ hp q hq rfl
  obtain ⟨n, _, rfl⟩ := List.mem_map.mp hp
  exact Nat.lt_irrefl _ (hl _ hq)

theorem Fresh.epoch_le {e c : Nat} {o : List (Nat × Nat)} (h : Fresh e c o) : ∀ p ∈ o, e ≤ p.1 := by
  obtain ⟨k, later, rfl, -, hl⟩ := h
  intro p hp
  rcases List.mem_append.mp hp with hp | hp
  · obtain ⟨n, _, rfl⟩ := List.mem_map.mp hp
    exact Nat.le_refl _
  · exact Nat.le_of_lt (hl p hp)

theorem Fresh.rekey {e c : Nat} {o : List (Nat × Nat)} (h : Fresh (e + 1) 0 o) : Fresh e c o :=
  ⟨0, o, rfl, h.nodup, fun p hp => h.epoch_le p hp⟩

theorem Fresh.extend {e c k : Nat} {o : List (Nat × Nat)} (h : Fresh e (c + k) o) :
    Fresh e c ((List.range' c k).map (fun n => (e, n)) ++ o) := by
  obtain ⟨k', later, rfl, hn, hl⟩ := h
  exact ⟨k + k', later, by rw [← List.append_assoc, ← List.map_append, List.range'_append_1], hn, hl⟩

theorem srun_fresh (evs : List SEv) (s : Sess) :
    Fresh s.epoch s.st.sendCtr (ssealedOf (srun s evs)) ∧ Fresh s.epoch s.st.recvCtr (sacceptedOf (srun s evs)) := by
  induction evs generalizing s with
  | nil => exact ⟨⟨0, [], rfl, .nil, nofun⟩, ⟨0, [], rfl, .nil, nofun⟩⟩
  | cons e es ih =>
    cases e with
    | rekey => exact ⟨(ih _).1.rekey, (ih _).2.rekey⟩
    | ev e =>
      obtain ⟨k, a, h⟩ := step_spec s.st e
      obtain ⟨i1, i2⟩ := ih { s with st := (step s.st e).1 }
      rw [srun, sstep, ssealedOf_append, sacceptedOf_append, ssealedOf_map, sacceptedOf_map, h.sealed, h.accepted]
      exact ⟨(h.send ▸ i1).extend, (h.recv ▸ i2).extend⟩

/-- **Across sessions** (IP reconnects, BLE pair-verify and pair-resume in any order, any traffic and failures in
    between): no (key set, nonce) pair is ever used twice for sealing -/
theorem C06_sessions_nonce_unique (evs : List SEv) (s : Sess) : (ssealedOf (srun s evs)).Nodup :=
  (srun_fresh evs s).1.nodup

/-- ... and no (key set, message counter) is accepted twice -/
theorem C06_sessions_accept_once (evs : List SEv) (s : Sess) : (sacceptedOf (srun s evs)).Nodup :=
  (srun_fresh evs s).2.nodup

/-- a new session never continues an old key set: everything sealed after a re-key carries a later epoch -/
theorem C06_rekey_fresh (evs : List SEv) (s : Sess) :
    ∀ p ∈ ssealedOf (srun s (.rekey :: evs)), s.epoch < p.1 :=
  (srun_fresh evs { epoch := s.epoch + 1, st := {} }).1.epoch_le

example : srun {} [.ev (.send 2), .ev (.deliver (.genuine 0)), .rekey, .ev (.send 1), .ev (.deliver (.genuine 0))] =
    [(0, .sealed 0), (0, .sealed 1), (0, .accepted 0), (1, .sealed 0), (1, .accepted 0)] := by decide +kernel

/-- **CoAP events**: own counter, success-only advance: accepted exactly once, in order -/
theorem C06_coap_events : ∀ (cts : List Ct) (c : Nat), ∃ a, acceptedOf (eventRun c cts) = List.range' c a := by
  intro cts c
  induction cts generalizing c with
  | nil => exact ⟨0, rfl⟩
  | cons ct cts ih =>
    rw [eventRun, eventStep]
    split
    · obtain ⟨a, ha⟩ := ih (c + 1)
      exact ⟨a + 1, (congrArg (c :: ·) ha).trans List.range'_succ.symm⟩
    · exact ih c

theorem coapRun_exchange {s : CoapSt} (hs : s.alive = true) (rest : List CoapEv) :
    coapRun s (.request :: .response (.genuine s.recvCtr) :: rest) =
      .sealed s.sendCtr :: .accepted s.recvCtr :: coapRun ⟨s.sendCtr + 1, s.recvCtr + 1, true⟩ rest := by
  -- the current counter is the first candidate tried
  have hfind : (candidates s.recvCtr).find? (fun c => opens c (.genuine s.recvCtr)) = some s.recvCtr :=
    List.find?_cons_of_pos (by simp [opens])
  obtain ⟨sc, rc, al⟩ := s
  cases hs
  simp only [coapRun, coapStep, hfind]
  rfl

/-- **CoAP requests/responses, partial**: in histories where every delivered response is the
    genuine next one (no loss, replay, reordering or corruption) nonces are unique and responses
    are accepted once and in order. -/
theorem C06_coap_partial : ∀ (n : Nat) (s : CoapSt), s.alive = true →
    coapRun s ((List.range' s.recvCtr n).flatMap fun j => [CoapEv.request, CoapEv.response (.genuine j)])
      = (List.range' 0 n).flatMap fun i => [Obs.sealed (s.sendCtr + i), Obs.accepted (s.recvCtr + i)] := by
  intro n s hs
  induction n generalizing s with
  | zero => rfl
  | succ n ih =>
    rw [List.range'_succ, List.flatMap_cons]
    refine (coapRun_exchange hs _).trans ?_
    refine (congrArg (Obs.sealed s.sendCtr :: Obs.accepted s.recvCtr :: ·) (ih ⟨s.sendCtr + 1, s.recvCtr + 1, true⟩ rfl)).trans ?_
    rw [List.range'_succ, List.flatMap_cons, List.range'_succ_left, List.flatMap_map]
    simp only [Nat.add_right_comm _ 1]
    rfl

/-- **Known finding 1**: a replay of the response sealed with counter 3, arriving when the
    controller expects counter 6, is accepted again (rewind window) -/
theorem C06_coap_counterexample_replay :
    acceptedOf (coapRun {} ((List.range 6).flatMap (fun j => [CoapEv.request, CoapEv.response (.genuine j)]) ++
      [.response (.genuine 3)])) = [0, 1, 2, 3, 4, 5, 3] := by decide +kernel

/-- **Known finding 2**: after 7 exchanges a replay of the very first response (counter 0) is
    outside the rewind window, hits the "zero the counters" branch, is accepted, and the next
    request is sealed with nonce 0 again - under the same key -/
theorem C06_coap_counterexample_nonce_reuse :
    sealedOf (coapRun {} ((List.range 7).flatMap (fun j => [CoapEv.request, CoapEv.response (.genuine j)]) ++
      [.response (.genuine 0), .request])) = [0, 1, 2, 3, 4, 5, 6, 0] := by decide +kernel

/-- tie to the source (regenerated on every run from `EncryptionContext._decrypt_response`): the counters the CoAP
    resynchronisation tries are the current one, then up to `rewind` earlier ones, then `forward` later ones, with
    the source's window sizes -/
theorem C06_gen_tie (recv : Nat) :
    candidates recv = [recv] ++ List.range' (recv - min Gen.Misc.coapRewind recv) (min Gen.Misc.coapRewind recv) ++
      List.range' (recv + 1) Gen.Misc.coapForward := rfl

end HapVerif.C06
