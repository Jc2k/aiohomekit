import HapVerif.Proofs.Tlv8Array
import HapVerif.Gen.Schemas
import HapVerif.Gen.Scalars
import Mathlib.Algebra.GroupWithZero.Nat  -- `256 ^ n` in `C16_field_roundtrips` is stated with its instance on `Nat`

/-! # C16 - structured TLV8 messages round-trip for every defined message type

`Tlv8.encStruct` / `decStruct` / `tlvArray` (tied to `aiohomekit/tlv8.py`; the schema of every `TLVStruct` subclass is
regenerated into `Gen.Schemas` on every run). -/

namespace HapVerif.C16
open HapVerif HapVerif.Tlv8

/-! ## well-formed schemas -/

mutual
/-- supported field types, distinct TLV types per struct, TLV types fit a byte, no field of type 0
    in a struct used as a sequence element (0 is the list separator), and no `Sequence[u16]`
    (decoded by the wrong splitter today - known finding) -/
def wfTy : FieldTy → Bool
  | .uint n => decide (0 < n)
  | .buint16 | .str | .bytes => true
  | .enum ms => ms.all (· < 256)
  | .struct s => wfS s
  | .seqStruct s => wfS s && noZero s
  | .seqU16 => false
def wfS : Schema → Bool
  | .mk fs => wfFields fs && distinctTypes fs
def wfFields : List (Nat × FieldTy) → Bool
  | [] => true
  | (t, ty) :: fs => decide (t < 256) && wfTy ty && wfFields fs
def distinctTypes : List (Nat × FieldTy) → Bool
  | [] => true
  | (t, _) :: fs => !(fs.any (·.1 = t)) && distinctTypes fs
def noZero : Schema → Bool
  | .mk fs => !(fs.any (·.1 = 0))
end

/-- **Every class**: of all `TLVStruct` subclasses found in the package by reflection, exactly
    these are outside the well-formed fragment - the BLE/CoAP service signatures and their
    containers (packed `Sequence[u16]` linked-service list) and `Meshcop` (TLV types 128 and 129
    declared twice).  Any other class, present or future, satisfies `wfS`. -/
theorem C16_all_classes :
    (Gen.Schemas.all.filter (fun p => !wfS p.2)).map (·.1) =
      ["aiohomekit.controller.ble.structs.Service",
       "aiohomekit.controller.coap.structs.Pdu09Accessory",
       "aiohomekit.controller.coap.structs.Pdu09AccessoryContainer",
       "aiohomekit.controller.coap.structs.Pdu09Database",
       "aiohomekit.controller.coap.structs.Pdu09Service",
       "aiohomekit.controller.coap.structs.Pdu09ServiceContainer",
       "aiohomekit.meshcop.Meshcop"] := by decide +kernel

/-! ## canonical encoding -/

/-- the fragment writer of `TLVStruct.encode` is the pairing codec's (C15) fragment writer (`frag_eq_encFrag`), hence every
    non-empty field value is written in maximal 255-byte fragments with a non-empty last fragment: the unique canonical
    TLV8 form of `(t, e)`. -/
theorem C16_fragments_canonical (t : UInt8) (e : Bytes) (he : e ≠ []) :
    Spec.Tlv8.Frags t e (frag t e.length e) :=
  frag_frags t e he

/-- fields are written in declaration order; an unset field writes nothing -/
theorem C16_declaration_order (t : Nat) (ty : FieldTy) (fs : List (Nat × FieldTy)) (v : Val) (vs : List (Option Val))
    (e rest : Bytes) (he : encVal ty v = .ok e) (hr : encFields fs vs = .ok rest) :
    encStruct (.mk ((t, ty) :: fs)) (.mk (some v :: vs)) = .ok (frag (UInt8.ofNat t) e.length e ++ rest) ∧
    encStruct (.mk ((t, ty) :: fs)) (.mk (none :: vs)) = .ok rest := by
  constructor
  · rw [encStruct, encFields, he, hr]; rfl
  · rw [encStruct, encFields]; exact hr

/-- list items are separated by the zero-length TLV `00 00`, with no leading or trailing separator -/
theorem C16_list_separators (s : Schema) : ∀ (vs : List SVal) (es : List Bytes),
    vs.length = es.length → (∀ i (h : i < vs.length) (h' : i < es.length), encStruct s vs[i] = .ok es[i]) →
    encSeq s vs = .ok (([0, 0] : Bytes).intercalate es) := by
  intro vs es hl h
  have hz : ∀ p ∈ vs.zip es, encStruct s p.1 = .ok p.2 := by
    intro p hp
    obtain ⟨i, hi, rfl⟩ := List.mem_iff_getElem.mp hp
    have hi' : i < min vs.length es.length := List.length_zip ▸ hi
    rw [List.getElem_zip]
    exact h i (Nat.lt_of_lt_of_le hi' (Nat.min_le_left ..)) (Nat.lt_of_lt_of_le hi' (Nat.min_le_right ..))
  have := encSeq_map s Prod.fst Prod.snd (vs.zip es) hz
  rwa [List.map_fst_zip (Nat.le_of_eq hl), List.map_snd_zip (Nat.le_of_eq hl.symm), joinItems_eq_intercalate] at this

/-! ## the generic round trip -/

/-- **Any schema.**  For every schema whose TLV types are distinct and fit a byte, and every positional value: if
    each field that is set encodes to a non-empty value that its own type decodes back (`Enc`), then
    `TLVStruct.decode(TLVStruct.encode(v)) = v` - no bound on the number of fields, value lengths or fragments.
    (An empty encoding is the documented asymmetry: `encode` writes nothing for it and it comes back unset.) -/
theorem C16_generic_roundtrip (fs : List (Nat × FieldTy)) (vs : List (Option Val)) (es : List (Option Bytes))
    (h : Enc fs vs es) (hnd : (fs.map (·.1)).Nodup) (hlt : ∀ f ∈ fs, f.1 < 256) :
    ∃ enc, encStruct (.mk fs) (.mk vs) = .ok enc ∧ decStruct (.mk fs) enc = .ok (.mk vs) :=
  ⟨_, (struct_roundtrip fs vs es h hnd hlt).1, (struct_roundtrip fs vs es h hnd hlt).2⟩

/-- the iterator recovers exactly the (type, value) segments of a canonical encoding, however many 255-byte
    fragments each value needs -/
theorem C16_iterator_recovers_segments (segs : List (UInt8 × Bytes)) (h : GoodSegs segs) :
    ∃ items, iter (cat segs) = .ok items ∧ items.map (fun it => (it.2.1, it.2.2.2)) = segs :=
  iter_cat segs h

/-- the hypothesis of the generic theorem holds for every scalar field type on its whole value domain, and a
    struct-typed field inherits it from its own schema (so nested structs follow by applying the theorem
    inside-out) -/
theorem C16_field_roundtrips :
    (∀ n x, 0 < n → x < 256 ^ n → encVal (.uint n) (.int x) = .ok (natToLe n x) ∧ natToLe n x ≠ [] ∧
      decVal (.uint n) (natToLe n x) = .ok (.int x)) ∧
    (∀ x, x < 65536 → encVal .buint16 (.int x) = .ok (natToLe 2 x).reverse ∧ (natToLe 2 x).reverse ≠ [] ∧
      decVal .buint16 (natToLe 2 x).reverse = .ok (.int x)) ∧
    (∀ b : Bytes, b ≠ [] → encVal .bytes (.raw b) = .ok b ∧ b ≠ [] ∧ decVal .bytes b = .ok (.raw b)) ∧
    (∀ b : Bytes, b ≠ [] → validUtf8 b.length b = true →
      encVal .str (.raw b) = .ok b ∧ b ≠ [] ∧ decVal .str b = .ok (.raw b)) ∧
    (∀ ms x, x ∈ ms → x < 256 → encVal (.enum ms) (.int x) = .ok (natToLe 1 x) ∧ natToLe 1 x ≠ [] ∧
      decVal (.enum ms) (natToLe 1 x) = .ok (.int x)) ∧
    (∀ fs vs es, Enc fs vs es → (fs.map (·.1)).Nodup → (∀ f ∈ fs, f.1 < 256) → cat (segsOf fs es) ≠ [] →
      encVal (.struct (.mk fs)) (.struct (.mk vs)) = .ok (cat (segsOf fs es)) ∧ cat (segsOf fs es) ≠ [] ∧
      decVal (.struct (.mk fs)) (cat (segsOf fs es)) = .ok (.struct (.mk vs))) :=
  ⟨field_uint, field_buint16, field_bytes, field_str, field_enum, field_struct⟩

/-- `tlv_array` splits a separator-joined list of canonical item encodings back into exactly the items: any
    number of items, each of any size (item schemas have no field of TLV type 0, the separator) -/
theorem C16_array_split (encs : List (List (UInt8 × Bytes))) (hne : encs ≠ []) (hg : ∀ e ∈ encs, GoodItem e) :
    tlvArray (joinItems (encs.map cat)) = .ok (encs.map cat) :=
  tlvArray_joinItems encs hne hg

/-- a list-of-structs field (`Sequence[TLVStruct]`) round-trips whenever each item does: together with
    `C16_generic_roundtrip` and `C16_field_roundtrips` this covers every field type of the package except the
    packed `Sequence[u16]` of the known finding -/
theorem C16_list_field_roundtrip (fs : List (Nat × FieldTy)) (hnd : (fs.map (·.1)).Nodup)
    (hlt : ∀ f ∈ fs, f.1 < 256) (hnz : ∀ f ∈ fs, f.1 ≠ 0)
    (items : List (List (Option Val) × List (Option Bytes))) (hne : items ≠ [])
    (henc : ∀ it ∈ items, Enc fs it.1 it.2 ∧ segsOf fs it.2 ≠ []) :
    encVal (.seqStruct (.mk fs)) (.seq (items.map (fun it => SVal.mk it.1))) =
      .ok (joinItems (items.map (fun it => cat (segsOf fs it.2)))) ∧
    joinItems (items.map (fun it => cat (segsOf fs it.2))) ≠ [] ∧
    decVal (.seqStruct (.mk fs)) (joinItems (items.map (fun it => cat (segsOf fs it.2)))) =
      .ok (.seq (items.map (fun it => SVal.mk it.1))) := by
  have hrt := fun it hit => struct_roundtrip fs it.1 it.2 (henc it hit).1 hnd hlt
  have hgood : ∀ it ∈ items, GoodItem (segsOf fs it.2) := by
    intro it hit
    obtain ⟨h1, h2⟩ := henc it hit
    refine ⟨goodSegs_of_enc fs it.1 it.2 h1 hnd hlt, fun s hs h0 => ?_, h2⟩
    obtain ⟨f, hf, hs1⟩ := segsOf_types h1 s hs
    exact hnz f hf (ofNat_inj_lt f.1 0 (hlt f hf) (by decide) (hs1 ▸ h0))
  have harr : tlvArray (joinItems (items.map fun it => cat (segsOf fs it.2))) =
      .ok (items.map fun it => cat (segsOf fs it.2)) := by
    have := tlvArray_joinItems _ (mt List.map_eq_nil_iff.mp hne) (List.forall_mem_map.mpr hgood)
    rwa [List.map_map] at this
  refine ⟨?_, ?_, ?_⟩
  · rw [encVal, encSeq_map _ _ _ items (fun it hit => (hrt it hit).1)]
  · obtain ⟨it, rest, rfl⟩ := List.exists_cons_of_ne_nil hne
    have hg := hgood it (List.mem_cons_self ..)
    exact joinItems_ne_nil _ (fun e he => Option.some.inj he ▸ cat_ne_nil hg.good hg.ne) (List.cons_ne_nil _ _)
  · show (tlvArray _ >>= fun its => its.mapM (decStruct (.mk fs)) >>= fun vs => pure (Val.seq vs)) = _
    rw [harr, Except.ok_bind, mapM_map_ok _ _ (fun it => SVal.mk it.1) items (fun it hit => (hrt it hit).2)]
    rfl

/-- non-vacuity and nesting: a struct with an integer, a byte string of ANY length and a nested struct -/
example (x y : Nat) (b : Bytes) (hx : x < 256) (hy : y < 65536) (hb : b ≠ []) :
    let inner : List (Nat × FieldTy) := [(1, .uint 2)]
    let outer : List (Nat × FieldTy) := [(1, .uint 1), (2, .bytes), (3, .struct (.mk inner))]
    let v : SVal := .mk [some (.int x), some (.raw b), some (.struct (.mk [some (.int y)]))]
    ∃ enc, encStruct (.mk outer) v = .ok enc ∧ decStruct (.mk outer) enc = .ok v := by
  intro inner outer v
  have hi := field_uint 2 y (by decide) hy
  have hin : Enc inner [some (.int y)] [some (natToLe 2 y)] := Enc.field hi Enc.nil
  have hcat : cat (segsOf inner [some (natToLe 2 y)]) ≠ [] := cat_ne_nil (segs := [_]) hi.ne_nil (List.cons_ne_nil _ _)
  have hout : Enc outer [some (.int x), some (.raw b), some (.struct (.mk [some (.int y)]))]
      [some (natToLe 1 x), some b, some (cat (segsOf inner [some (natToLe 2 y)]))] :=
    Enc.field (field_uint 1 x (by decide) hx) (Enc.field (field_bytes b hb)
      (Enc.field (field_struct inner _ _ hin (by decide) (by decide) hcat) Enc.nil))
  exact C16_generic_roundtrip outer _ _ hout (by decide) (by decide)

/-! ## known findings as theorems (model of the unchanged code) -/

def idsOf : SVal → List (List Nat)
  | .mk fs => fs.filterMap fun | some (.ids l) => some l | _ => none
def rawsOf : SVal → List (Option Bytes)
  | .mk fs => fs.map fun | some (.raw b) => some b | _ => none

/-- packed linked-service ids `[16, 32]` (bytes `10 00 20 00`) decode to the single id 2097168 -/
theorem C16_counterexample_seqU16 :
    (decStruct (.mk [(15, .uint 2), (16, .seqU16)]) [0x10, 4, 16, 0, 32, 0]).toOption.map idsOf
      = some [[2097168]] := by decide +kernel

/-- a TLV type declared by two fields comes back under the later one -/
theorem C16_counterexample_duplicate_type :
    ((encStruct (.mk [(128, .bytes), (128, .bytes)]) (.mk [some (.raw [7]), none])).toOption.bind
        (fun b => (decStruct (.mk [(128, .bytes), (128, .bytes)]) b).toOption)).map rawsOf
      = some [none, some [7]] := by decide +kernel

/-! ## The integer (de)serialisers of `tlv8.py` are what the schema translator assumes

`Gen/Schemas.lean` maps the field types `u8 … u128` to `.uint n` (n little-endian bytes) and `bu16` to `.buint16`.  The rows
below are lifted from the source on every run: which function the dispatch tables name for each integer type, and what that
function's single return statement does.  (`struct` formats without a byte-order prefix are native mode; native = little-endian
on the hosts the library supports - trusted base.) -/

/-- width of a `struct` format character that has the same size in native and standard mode -/
def fmtWidth (c : Char) : Option Nat :=
  if c = 'B' then some 1 else if c = 'H' then some 2 else if c = 'I' then some 4 else if c = 'Q' then some 8 else none

/-- what a serialiser row writes: (number of bytes, big-endian?) -/
def serShape (r : String × String × Nat × String × String) : Option (Nat × Bool) :=
  if r.2.1 = "struct" then
    match r.2.2.2.1.toList with
    | ['>', c] => (fmtWidth c).map (fun w => (w, true))
    | ['<', c] => (fmtWidth c).map (fun w => (w, false))
    | [c] => (fmtWidth c).map (fun w => (w, false))
    | _ => none
  else if r.2.1 = "to_bytes" then
    if r.2.2.2.1 = "little" then some (r.2.2.1, false) else if r.2.2.2.1 = "big" then some (r.2.2.1, true) else none
  else none

/-- the byte order `int.from_bytes` reads with -/
def deserBig (r : String × String × Nat × String × String) : Option Bool :=
  if r.2.2.2.2 = "little" then some false else if r.2.2.2.2 = "big" then some true else none

/-- what the schema translator maps each integer type to: `.uint n` = (n, little), `.buint16` = (2, big) -/
def modelShape (ty : String) : Option (Nat × Bool) :=
  if ty = "u8" then some (1, false) else if ty = "u16" then some (2, false) else if ty = "bu16" then some (2, true)
  else if ty = "u32" then some (4, false) else if ty = "u64" then some (8, false) else if ty = "u128" then some (16, false) else none

/-- **every integer type is written with the width and byte order the model uses, and read back with the same byte order**;
    all six types are present -/
theorem C16_gen_scalar_tie :
    (∀ r ∈ Gen.Scalars.rows, serShape r = modelShape r.1 ∧ deserBig r = (modelShape r.1).map (·.2) ∧ (modelShape r.1).isSome) ∧
    Gen.Scalars.rows.map (·.1) = ["u8", "u16", "bu16", "u32", "u64", "u128"] := by decide +kernel

/-- ... and this is what `.uint n` / `.buint16` do in the model -/
theorem C16_scalar_model (n x : Nat) :
    Tlv8.encVal (.uint n) (.int x) = Tlv8.leBytes? n x ∧
    Tlv8.encVal .buint16 (.int x) = (Tlv8.leBytes? 2 x).map List.reverse := ⟨by simp [Tlv8.encVal], by simp [Tlv8.encVal]⟩

end HapVerif.C16

namespace HapVerif.Tlv8
open HapVerif.Spec.Tlv8

/-- stated in this file because its `List.sum` elaborates with the Mathlib instance imported here -/
theorem cat_length (segs : List (UInt8 × Bytes)) : (segs.map (·.2.length)).sum ≤ (cat segs).length := by
  induction segs with
  | nil => simp [cat]
  | cons s rest ih =>
    obtain ⟨t, e⟩ := s
    simp only [cat, List.map_cons, List.sum_cons, List.length_append]
    by_cases he : e = []
    · subst he; simpa [frag] using ih
    · have := frags_length_le (frag_frags t e he); omega

end HapVerif.Tlv8
