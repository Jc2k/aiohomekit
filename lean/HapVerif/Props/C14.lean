import HapVerif.Gen.Misc
import HapVerif.Proofs.BleMeta
import HapVerif.Proofs.Convert

/-! # C14 - values prepared for writing respect format, range and step -/

namespace HapVerif.C14
open HapVerif.Convert

theorem C14_bool (s : String) : convertBool s = none ∨ convertBool s = some 0 ∨ convertBool s = some 1 := by
  unfold convertBool
  simp only
  split
  · exact .inr (.inr rfl)
  · split
    · exact .inr (.inl rfl)
    · exact .inl rfl

/-! ## the step grid (integer formats: exact arithmetic) -/

/-- **On the grid**: the stepped value is `offset + k * step` for an integer `k`. -/
theorem C14_on_grid (v off step : ℚ) : ∃ k : ℤ, stepRound true v off step = off + k * step :=
  ⟨_, stepRound_true v off step⟩

/-- **Nearest, ties upward**: for a value at or above the offset the stepped value `g` satisfies
    `g - step/2 ≤ v < g + step/2` - it is a grid point nearest to `v`, and a value exactly
    between two grid points goes to the upper one. -/
theorem C14_nearest (v off step : ℚ) (hs : 0 < step) (hv : off ≤ v) :
    stepRound true v off step - step / 2 ≤ v ∧ v < stepRound true v off step + step / 2 := by
  obtain ⟨h1, h2⟩ := round_eq_iff.1 (rfl : round ((v - off) / step) = _)
  rw [le_div_iff₀ hs, sub_mul, one_div_mul_eq_div] at h1
  rw [div_lt_iff₀ hs, add_mul, one_div_mul_eq_div] at h2
  rw [stepRound_round hs hv, add_sub_assoc, add_assoc]
  exact ⟨le_sub_iff_add_le'.1 h1, sub_lt_iff_lt_add'.1 h2⟩

/-- no other grid point is strictly nearer -/
theorem C14_no_nearer (v off step : ℚ) (hs : 0 < step) (hv : off ≤ v) (k : ℤ) :
    |v - stepRound true v off step| ≤ |v - (off + k * step)| := by
  rw [stepRound_round hs hv, ← sub_sub, ← sub_sub, abs_sub_grid _ _ hs, abs_sub_grid _ _ hs]
  exact mul_le_mul_of_nonneg_right (round_le _ k) hs.le

/-- **Within the range** whenever the bounds are themselves on the grid. -/
theorem C14_in_range (v mn step : ℚ) (m : ℕ) (hs : 0 < step) (h1 : mn ≤ v) (h2 : v ≤ mn + m * step) :
    mn ≤ stepRound true v mn step ∧ stepRound true v mn step ≤ mn + m * step := by
  have n0 := round_mono (div_nonneg (sub_nonneg.2 h1) hs.le)
  have nm := round_mono ((div_le_iff₀ hs).2 (sub_le_iff_le_add'.2 h2))
  rw [round_zero] at n0
  rw [round_natCast] at nm
  rw [stepRound_round hs h1, ← Int.cast_natCast m]
  exact ⟨le_add_of_nonneg_right (mul_nonneg (Int.cast_nonneg n0) hs.le),
    add_le_add_right (mul_le_mul_of_nonneg_right (Int.cast_le.2 nm) hs.le) mn⟩

theorem clamp_range (mn mx v : ℚ) (h : mn ≤ mx) : mn ≤ clamp (some mn) (some mx) v ∧ clamp (some mn) (some mx) v ≤ mx := by
  rw [clamp_some]
  exact ⟨le_min (le_max_left _ _) h, min_le_right _ _⟩

/-- **Integer formats, integer inputs of any magnitude**: with an integral minimum, step and
    (clamped) input the conversion returns exactly the nearest grid point - an integer, with no
    loss of digits whatever the magnitude. -/
theorem C14_int_exact (mn mx s z : ℤ) (hs : 0 < s) (h1 : mn ≤ z) (h2 : z ≤ mx) :
    ∃ g : ℤ, convert true (some (mn : ℚ)) (some (mx : ℚ)) (some (s : ℚ)) (z : ℚ) = (g : ℚ) ∧
      (∃ k : ℤ, g = mn + k * s) ∧ 2 * g - s ≤ 2 * z ∧ 2 * z < 2 * g + s := by
  have hsq : (0 : ℚ) < s := Int.cast_pos.2 hs
  have hz : (mn : ℚ) ≤ z := Int.cast_le.2 h1
  obtain ⟨b1, b2⟩ := C14_nearest z mn s hsq hz
  have hc := convert_true_of_mem hsq.ne' hz (Int.cast_le.2 h2)
  rw [stepRound_true, ← Int.cast_mul, ← Int.cast_add] at b1 b2 hc
  rw [roundHalfEvenInt_intCast] at hc
  refine ⟨_, hc, ⟨_, rfl⟩, ?_⟩
  generalize mn + roundHalfUpInt _ * s = g at b1 b2 ⊢
  have c1 := mul_le_mul_of_nonneg_left b1 zero_le_two
  have c2 := mul_lt_mul_of_pos_left b2 two_pos
  rw [mul_sub, mul_div_cancel₀ _ two_ne_zero] at c1
  rw [mul_add, mul_div_cancel₀ _ two_ne_zero] at c2
  exact ⟨by exact_mod_cast c1, by exact_mod_cast c2⟩

/-- integer formats yield integers, always -/
theorem C14_int_format_integer (mn mx st : Option ℚ) (v : ℚ) : ∃ g : ℤ, convert true mn mx st v = (g : ℚ) :=
  ⟨_, rfl⟩

/-- **Fractional values, the exact case**: when the four intermediate quantities are representable in six significant
    digits, the float path computes exactly what the exact path computes - hence the nearest grid point with ties
    upward.  The general case is `C14_float_within_six_digits` below. -/
theorem C14_nearest_6digits_exact (v off step : ℚ)
    (h1 : roundSig 6 (v - off) = v - off) (h2 : roundSig 6 ((v - off) / step) = (v - off) / step)
    (h3 : roundSig 6 ((roundHalfUpInt ((v - off) / step) : ℚ) * step) = (roundHalfUpInt ((v - off) / step) : ℚ) * step)
    (h4 : roundSig 6 (off + (roundHalfUpInt ((v - off) / step) : ℚ) * step) = off + (roundHalfUpInt ((v - off) / step) : ℚ) * step) :
    stepRound false v off step = stepRound true v off step := by
  simp only [stepRound, ctxRound, if_true, Bool.false_eq_true, if_false, h1, h2, h3, h4]

/-! ## the float path in general: six significant digits -/

/-- rounding to six significant digits: relative error at most 5·10⁻⁶ -/
theorem roundSig6_rel (q : ℚ) : |roundSig 6 q - q| * 200000 ≤ |q| := by
  have := roundSig_rel 6 q
  linarith

/-- **Fractional values, in general**: the float path (every arithmetic result kept to six significant digits) returns
    the six-digit rendering of a grid point `off + k·step` whose index `k` is the exact quotient rounded half-up, up to
    the relative slack 1/99999 that the two roundings before `to_integral_value` can introduce; the two roundings after it
    move the result by at most a relative 1/199999 of the magnitudes involved. -/
theorem C14_float_within_six_digits (v off step : ℚ) (hs : 0 < step) (hv : off ≤ v) :
    ∃ k : ℤ, |(k : ℚ) - (v - off) / step| ≤ 1 / 2 + ((v - off) / step) / 99999 ∧
      |stepRound false v off step - (off + k * step)| ≤ (|off + k * step| + |(k : ℚ) * step|) / 199999 := by
  have hx : 0 ≤ (v - off) / step := div_nonneg (sub_nonneg.2 hv) hs.le
  have h := round_twice (relErr_div step (roundSig6_rel (v - off))) (roundSig6_rel _)
  rw [abs_of_nonneg hx] at h
  refine ⟨roundHalfUpInt (roundSig 6 (roundSig 6 (v - off) / step)), ?_, round_twice ?_ (roundSig6_rel _)⟩
  · refine (abs_sub_le _ _ _).trans (add_le_add (abs_roundHalfUpInt_sub_le _) (h.trans ?_))
    -- `2 / 199999 ≤ 1 / 99999`
    linarith
  · rw [add_sub_add_left_eq_sub]
    exact roundSig6_rel _

/-- the same as a distance: the result is within half a step of the input, plus a relative 10⁻⁵ of the magnitudes
    involved (the price of six significant digits) -/
theorem C14_float_distance (v off step : ℚ) (hs : 0 < step) (hv : off ≤ v) :
    ∃ k : ℤ, |stepRound false v off step - v| ≤
      step / 2 + (v - off) / 99999 + (|off + k * step| + |(k : ℚ) * step|) / 199999 := by
  obtain ⟨k, h1, h2⟩ := C14_float_within_six_digits v off step hs hv
  have h3 := mul_le_mul_of_nonneg_right h1 hs.le
  rw [abs_sub_comm, ← abs_sub_grid _ _ hs, sub_sub, abs_sub_comm, add_mul, one_div_mul_eq_div, div_right_comm,
    div_mul_cancel₀ _ hs.ne'] at h3
  exact ⟨k, (abs_sub_le _ _ v).trans ((add_le_add h2 h3).trans_eq (add_comm _ _))⟩

/-- integers of seven and ten digits (1234567, 2^32-1) stay exact in the integer formats; a tie (12.5 on a grid of 5)
    goes upward; the float path takes 27.25 to 27.5 on a 0.5 grid from 10 -/
example : convert true (some 0) (some 4294967295) (some 1) 1234567 = 1234567 := by decide +kernel
example : convert true (some 0) (some 4294967295) (some 1) 4294967295 = 4294967295 := by decide +kernel
example : convert true (some 0) (some 100) (some 5) (25 / 2) = 15 := by decide +kernel
example : convert false (some 10) (some 38) (some (1 / 2)) (109 / 4) = 55 / 2 := by decide +kernel

/-- tie to the source (regenerated on every run from `check_convert_value`): six significant digits, only outside
    the integer formats, rounding half up; the integer formats; the final conversions -/
theorem C14_gen_tie :
    (∀ q, HapVerif.Convert.ctxRound false q = HapVerif.Convert.roundSig Gen.Misc.convertPrec q) ∧
    (∀ q, HapVerif.Convert.ctxRound true q = q) ∧
    Gen.Misc.convertPrecGuard = "char.format not in INTEGER_TYPES" ∧
    Gen.Misc.convertRounding = "ROUND_HALF_UP" ∧
    Gen.Misc.integerTypes = ["uint64", "uint32", "uint16", "uint8", "int"] ∧
    Gen.Misc.convertFinals = ["int(val.to_integral_value())", "float(val)"] :=
  ⟨fun _ => rfl, fun _ => rfl, rfl, rfl, rfl, rfl⟩

/-! ## The BLE signature route: how the declared range and step reach the characteristic model -/

section BleRoute
open HapVerif HapVerif.BleMeta

/-- **The declared range reaches the model exactly, over the BLE signature route** (`min_max_value`): for every integer
    presentation format and every pair of bounds the format can express - negative minima of `int` down to -2^31
    included - the valid-range descriptor a conformant accessory writes (both bounds little-endian in the
    characteristic's format, two's complement) is read back as exactly those bounds. -/
theorem C14_ble_range_roundtrip (code : Nat) (f : IntFmt) (hf : intFmt code = some f) (lo hi : Int)
    (hlo : inRange f lo) (hhi : inRange f hi) :
    minMax code (encodeInt f lo ++ encodeInt f hi) = .ints lo hi := by
  have hl : (encodeInt f lo ++ encodeInt f hi).length = 2 * f.width := by
    rw [List.length_append, encodeInt_length, encodeInt_length, Nat.two_mul]
  have hw := intFmt_width_pos code f hf
  rw [minMax_of_length hf hl, List.take_left' (encodeInt_length f lo), List.drop_left' (encodeInt_length f lo),
    decodeInt_encodeInt f hw lo hlo, decodeInt_encodeInt f hw hi hhi]

/-- the same for the step descriptor (`min_step`) -/
theorem C14_ble_step_roundtrip (code : Nat) (f : IntFmt) (hf : intFmt code = some f) (st : Int) (hst : inRange f st) :
    minStep code (encodeInt f st) = .int st := by
  rw [minStep_of_length hf (encodeInt_length f st), decodeInt_encodeInt f (intFmt_width_pos code f hf) st hst]

/-- non-vacuity, and the point a signed/unsigned mix-up gets wrong: a tilt range of -90..90 on an `int` characteristic -/
example : minMax 0x10 (encodeInt ⟨4, true⟩ (-90) ++ encodeInt ⟨4, true⟩ 90) = .ints (-90) 90 :=
  C14_ble_range_roundtrip 0x10 ⟨4, true⟩ rfl (-90) 90 (by unfold inRange; norm_num) (by unfold inRange; norm_num)
example : encodeInt ⟨4, true⟩ (-90) = [0xA6, 0xFF, 0xFF, 0xFF] := by decide

/-- **`min_max_value` and `min_step` of the model are the source's if-chains** (`C14_ble_gen_tie`): the rows the translator
    lifts out of `Characteristic.min_max_value` / `_unpack_value` on every run (format code, `struct` format string),
    interpreted with Python's `struct` semantics, give the model's result for EVERY format code and EVERY descriptor. -/
theorem C14_ble_gen_tie (code : Nat) (b : Bytes) :
    BleMetaGen.rangeByTable Gen.BleMeta.rangeRows code b = minMax code b ∧
    BleMetaGen.stepByTable Gen.BleMeta.unpackRows code b = minStep code b :=
  BleMetaGen.tie_of_items b (BleMetaGen.genRows_eq_modelItems code)

/-- the CoAP accessory database (`Pdu09Characteristic` in `controller/coap/structs.py`) decodes range and step by the
    same rows - so the same theorem holds for metadata arriving over CoAP/Thread -/
theorem C14_coap_gen_tie (code : Nat) (b : Bytes) :
    BleMetaGen.rangeByTable Gen.BleMeta.coapRangeRows code b = minMax code b ∧
    BleMetaGen.stepByTable Gen.BleMeta.coapUnpackRows code b = minStep code b :=
  C14_ble_gen_tie code b

/-- what is written is read back: per format code the library packs a value with the format it unpacks it with
    (BLE and CoAP) -/
theorem C14_ble_pack_unpack_same_format :
    (Gen.BleMeta.packRows.filter (fun r => r.2.1 != "")).map (fun r => (r.1, r.2.1)) =
      ((Gen.BleMeta.unpackRows.filter (fun r => r.2.1 != "" && r.1 != 1)).map (fun r => (r.1, r.2.1))) ∧
    Gen.BleMeta.coapPackRows = Gen.BleMeta.packRows := ⟨by decide +kernel, rfl⟩

end BleRoute

end HapVerif.C14
