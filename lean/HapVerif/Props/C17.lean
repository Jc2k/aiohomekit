import HapVerif.Proofs.Pdu
import HapVerif.Gen.Pdu

/-! # C17 - HAP PDUs are fragmented, reassembled and attributed correctly (BLE, CoAP)

`Pdu.encodePdu` / `readPdu` (tied to `aiohomekit/pdu.py` and `_read_pdu`) and `Pdu.coapEncodeAll` / `coapDecode` /
`attributeTo` (tied to `controller/coap/pdu.py`) against the accessory of `Spec.Pdu`. -/

namespace HapVerif.C17
open HapVerif HapVerif.Pdu HapVerif.Spec.Pdu

/-! ## BLE requests -/

/-- a body-less request is the bare 5-byte header -/
theorem C17_ble_request_empty (opcode tid : UInt8) (iid : Nat) (fs : Nat) :
    encodePdu opcode tid iid [] fs = [[0, opcode, tid] ++ Spec.Pdu.le16b iid] := by
  rfl

/-- every fragment fits the negotiated size (any size ≥ 8, any body). -/
theorem C17_ble_fragments_fit (opcode tid : UInt8) (iid : Nat) (data : Bytes) (fs : Nat) (hfs : 8 ≤ fs) :
    ∀ f ∈ encodePdu opcode tid iid data fs, f.length ≤ fs := by
  intro f hf
  by_cases hne : data = []
  · rw [hne, C17_ble_request_empty, List.mem_singleton] at hf
    rw [hf]; exact Nat.le_trans (Nat.le_add_right 5 3) hfs
  · rw [encodePdu_body _ _ _ _ _ hne] at hf
    rcases List.mem_cons.mp hf with rfl | hf
    · rw [List.length_append]
      exact Nat.le_trans (Nat.add_le_add_left (List.length_take_le _ _) 7)
        (Nat.le_of_eq (Nat.add_sub_cancel' (Nat.le_trans (by decide) hfs)))
    · exact Nat.le_trans (conts_fit tid (fs - 2) _ _ _ hf) (Nat.le_of_eq (Nat.sub_add_cancel (Nat.le_trans (by decide) hfs)))

/-- header fields and body are recovered by a conformant accessory. -/
theorem C17_ble_request_roundtrip (opcode tid : UInt8) (iid : Nat) (data : Bytes) (fs : Nat) (hfs : 8 ≤ fs)
    (hne : data ≠ []) :
    ∃ first rest, encodePdu opcode tid iid data fs = first :: rest ∧
      first.take 5 = [0, opcode, tid] ++ Spec.Pdu.le16b iid ∧
      (first.drop 5).take 2 = Spec.Pdu.le16b data.length ∧
      (joinConts tid rest).map (first.drop 7 ++ ·) = some data := by
  refine ⟨_, _, encodePdu_body _ _ _ _ _ hne, rfl, rfl, ?_⟩
  rw [conts_join tid (fs - 2) (Nat.sub_pos_of_lt (Nat.lt_of_lt_of_le (by decide) hfs)) _ _
    (by rw [List.length_drop]; exact Nat.sub_le _ _)]
  exact congrArg some (List.take_append_drop ..)

/-! ## BLE responses -/

/-- **Responses**: whatever first piece `p0` and non-empty continuation pieces `ps` a conformant
    accessory cuts `p0 ++ ps.flatten` into, the controller returns the accessory's status and the
    whole body, having consumed every fragment exactly once. -/
theorem C17_ble_response (control cc tid status : UInt8) (p0 : Bytes) (ps : List Bytes)
    (hst : status.toNat < 7) (hcc : cc.toNat &&& 0x80 ≠ 0) (hne : ∀ p ∈ ps, p ≠ [])
    (hlen : (p0 ++ ps.flatten).length < 65536) :
    readPdu tid ((respond control cc tid status (p0 ++ ps.flatten).length p0 ps).map some)
      = (.ok (status.toNat, p0 ++ ps.flatten), 1 + ps.length) := by
  rw [respond, List.map_cons, readPdu_first tid (decodeFirst_header control tid status _ p0 hst hlen),
    readLoop_pieces tid cc hcc ps p0 1 hne]

example : readPdu 9 ((respond 2 0x82 9 0 5 [1, 2] [[3], [4, 5]]).map some) = (.ok (0, [1, 2, 3, 4, 5]), 3) := by
  decide

/-- a 3-byte response (no length field) is a status with an empty body -/
theorem C17_ble_response_short (control tid status : UInt8) (hst : status.toNat < 7) :
    readPdu tid [some [control, tid, status]] = (.ok (status.toNat, []), 1) := by
  rw [readPdu_first tid (decodeFirst_short control tid status hst), readLoop_done tid (Nat.zero_le _)]

/-- **Rejects**: a first fragment with another transaction id, and a continuation fragment with
    another transaction id or without the continuation flag, are errors. -/
theorem C17_ble_rejects_first (tid t control status : UInt8) (rest : Bytes) (ht : t ≠ tid) :
    ∃ e, decodeFirst tid (control :: t :: status :: rest) = .error e := by
  rw [decodeFirst]
  by_cases hs : status.toNat ≥ bleStatusCount
  · exact ⟨_, if_pos hs⟩
  · exact ⟨_, by rw [if_neg hs, if_pos ht]⟩

theorem C17_ble_rejects_cont (tid t control : UInt8) (rest : Bytes) (h : t ≠ tid ∨ control.toNat &&& 0x80 = 0) :
    decodeCont tid (control :: t :: rest) = .error .value := by
  rw [decodeCont]
  split
  · rfl
  · rcases h with h | h
    · exact if_pos h
    · contradiction

/-- ... and the error surfaces from the read loop: nothing is returned for the request. -/
theorem C17_ble_rejects (tid : UInt8) (exp : Nat) (data bad : Bytes) (rest : List (Option Bytes)) (n : Nat)
    (hneed : data.length < exp) (hbad : decodeCont tid bad = .error .value) :
    readLoop tid exp (some bad :: rest) data n = (.error .value, n + 1) := by
  rw [readLoop_some tid hneed, hbad]

/-! ## CoAP batches -/

/-- what the controller must report for each accessory outcome -/
def expected : Outcome → Res
  | .ok b => .body b
  | .errStatus s _ => .status s.toNat
  | .wrongTid _ _ => .status 256
  | .badControl _ _ => .status 257

theorem coapDecodeOne_outcome (i : Nat) (hi : i < 256) (o : Outcome) (h : o.WF i) (tail : Bytes) :
    coapDecodeOne i (o.bytes i ++ tail) = .ok (o.body.length, expected o) := by
  have hti := UInt8.toNat_ofNat_of_lt' hi
  cases o with
  | ok b =>
    rw [Outcome.bytes, coapDecodeOne_item _ _ _ _ _ _ h, hti, if_neg (by decide), if_neg (not_not_intro rfl)]
    rfl
  | errStatus s b =>
    have h0 : s ≠ 0 := fun h0 => absurd (h0 ▸ h.1) (by decide)
    rw [Outcome.bytes, coapDecodeOne_item _ _ _ _ _ _ h.2.2, hti, if_neg (Nat.not_le.mpr h.2.1), if_neg (not_not_intro rfl),
      if_pos h0]
    rfl
  | wrongTid t b =>
    rw [Outcome.bytes, coapDecodeOne_item _ _ _ _ _ _ h.2, if_neg (by decide), if_pos h.1]
    rfl
  | badControl c b =>
    rw [Outcome.bytes, coapDecodeOne_item _ _ _ _ _ _ h.2, hti, if_neg (by decide), if_neg (not_not_intro rfl),
      if_neg (by decide), if_pos h.1]
    rfl

theorem coapDecodeAll_item (k : Nat) (hk : k < 256) (o : Outcome) (h : o.WF k) (tail : Bytes) (fuel : Nat) :
    coapDecodeAll (fuel + 1) k (o.bytes k ++ tail) =
      if tail = [] then .ok [expected o] else (coapDecodeAll fuel (k + 1) tail).map (expected o :: ·) := by
  have hstop : 5 + o.body.length ≥ (o.bytes k ++ tail).length ↔ tail = [] := by
    rw [List.length_append, outcome_bytes_length, ← List.length_eq_zero_iff]; omega
  rw [coapDecodeAll, coapDecodeOne_outcome k hk o h]
  simp only [hstop, List.drop_left' (outcome_bytes_length k o)]
  split
  · rfl
  · cases coapDecodeAll fuel (k + 1) tail <;> rfl

/-- **CoAP, positional**: for every non-empty batch and every combination of per-item outcomes
    (ok with any body, each error status with any body, wrong tid, wrong control bits), the decoded
    list has one entry per item and its i-th entry is the i-th item's outcome - nothing is shifted
    or hidden. -/
theorem C17_coap_positional : ∀ (os : List Outcome) (k fuel : Nat), os ≠ [] → k + os.length ≤ 256 →
    (∀ j (h : j < os.length), (os[j]).WF (k + j)) → os.length ≤ fuel →
    coapDecodeAll fuel k (respondAll k os) = .ok (os.map expected) := by
  intro os
  induction os with
  | nil => exact fun _ _ h => absurd rfl h
  | cons o os ih =>
    intro k fuel _ hk hwf hfuel
    cases fuel with
    | zero => exact absurd hfuel (Nat.not_succ_le_zero _)
    | succ fuel =>
      rw [List.length_cons, ← Nat.add_assoc, Nat.add_right_comm] at hk
      rw [respondAll, coapDecodeAll_item k (Nat.lt_of_succ_le (Nat.le_trans (Nat.le_add_right _ _) hk)) o
        (hwf 0 (Nat.zero_lt_succ _))]
      cases os with
      | nil => exact if_pos rfl
      | cons o2 os =>
        rw [if_neg (List.ne_nil_of_length_pos (Nat.lt_of_lt_of_le (Nat.succ_pos _) (length_le_respondAll (o2 :: os) (k + 1)))),
          ih (k + 1) fuel (List.cons_ne_nil _ _) hk
          (fun j hj => by
            have := hwf (j + 1) (Nat.succ_lt_succ hj)
            rwa [List.getElem_cons_succ, ← Nat.add_assoc, Nat.add_right_comm] at this)
          (Nat.le_of_succ_le_succ hfuel)]
        rfl

/-- the public entry point `decode_all_pdus(0, data)` -/
theorem C17_coap_positional_public (os : List Outcome) (hne : os ≠ []) (hn : os.length ≤ 256)
    (hwf : ∀ j (h : j < os.length), (os[j]).WF j) :
    coapDecode 0 (respondAll 0 os) = .ok (os.map expected) :=
  C17_coap_positional os 0 _ hne (by omega) (by simpa using hwf) (Nat.le_succ_of_le (length_le_respondAll os 0))

example : coapDecode 0 (respondAll 0 [.ok [1, 2], .errStatus 6 [9], .wrongTid 7 [], .badControl 0 [5], .ok []])
    = .ok [.body [1, 2], .status 6, .status 256, .status 257, .body []] := by decide

/-- **CoAP, attribution**: with as many results as requested ids, the i-th result is keyed by the
    i-th requested id. -/
theorem C17_coap_mapping {α} (ids : List α) (rs : List Res) (h : rs.length = ids.length) :
    attributeTo ids rs = .ok (ids.zip rs) ∧ (ids.zip rs).length = ids.length ∧
      ∀ i (hi : i < (ids.zip rs).length), (ids.zip rs)[i] = (ids[i]'(by simp at hi; omega), rs[i]'(by simp at hi; omega)) :=
  ⟨if_neg (Nat.not_lt.mpr (Nat.le_of_eq h)), by rw [List.length_zip, h, Nat.min_self], fun _ _ => List.getElem_zip⟩

/-- tie to the source: struct formats, status table sizes, fragment header sizes -/
theorem C17_gen_tie : Gen.Pdu.bleFirstOverhead = 7 ∧ Gen.Pdu.bleContOverhead = 2 ∧
    Gen.Pdu.bleStatusValues = [0, 1, 2, 3, 4, 5, 6] ∧ Gen.Pdu.coapStatusValues = [0, 1, 2, 3, 4, 5, 6, 256, 257] ∧
    Gen.Pdu.bleFormats = ["<BBBH", "<BBB", "<BBB", "<H", "<H", "<BB", "<BB"] ∧
    Gen.Pdu.coapFormats = ["<BBBHH", "<BBBH"] ∧ Gen.Pdu.contFlag = 128 ∧
    Gen.Pdu.coapControlMask = 14 ∧ Gen.Pdu.coapControlValue = 2 :=
  ⟨rfl, rfl, rfl, rfl, rfl, rfl, rfl, rfl, rfl⟩

/-! ## CoAP batch REQUESTS: what the accessory receives for the i-th requested characteristic -/

/-- a conformant accessory reading one request PDU off the front of a batch: (opcode, tid, iid, body) and the rest -/
def reqReadOne (data : Bytes) : Option ((UInt8 × Nat × Nat × Bytes) × Bytes) :=
  match data with
  | _control :: op :: tid :: i0 :: i1 :: l0 :: l1 :: rest =>
    let n := l0.toNat + 256 * l1.toNat
    if rest.length < n then none
    else some ((op, tid.toNat, i0.toNat + 256 * i1.toNat, rest.take n), rest.drop n)
  | _ => none

def reqReadAll : Nat → Bytes → Option (List (UInt8 × Nat × Nat × Bytes))
  | 0, _ => none
  | fuel + 1, data =>
    if data = [] then some []
    else match reqReadOne data with
      | none => none
      | some (r, rest) => (reqReadAll fuel rest).map (r :: ·)

/-- `encode_all_pdus` from transaction id `k` on -/
def encFrom (opcode : UInt8) (k : Nat) (items : List (Nat × Bytes)) : Bytes :=
  ((items.zipIdx k).map fun ((iid, data), idx) => coapEncodeOne opcode idx iid data).flatten

theorem encFrom_cons (op : UInt8) (k iid : Nat) (body : Bytes) (items : List (Nat × Bytes)) :
    encFrom op k ((iid, body) :: items) = coapEncodeOne op k iid body ++ encFrom op (k + 1) items := by
  rw [encFrom, List.zipIdx_cons, List.map_cons, List.flatten_cons]; rfl

theorem reqReadOne_encode (op : UInt8) (tid iid : Nat) (body tail : Bytes) (ht : tid < 256) (hi : iid < 65536)
    (hb : body.length < 65536) :
    reqReadOne (coapEncodeOne op tid iid body ++ tail) = some ((op, tid, iid, body), tail) := by
  have h1 : ¬ (body ++ tail).length < body.length := by rw [List.length_append]; omega
  simp only [coapEncodeOne, Pdu.le16b, List.cons_append, List.nil_append, reqReadOne, natToLe_two_val _ hb, natToLe_two_val _ hi,
    UInt8.toNat_ofNat_of_lt' ht, h1, if_false, List.take_left, List.drop_left]

/-- **CoAP, request side**: for every batch of (instance id, value) pairs - any number up to 256, any values - a
    conformant accessory reading the emitted bytes receives exactly one request per item, in order, under transaction
    ids k, k+1, ..., each carrying ITS OWN instance id and ITS OWN value: nothing is shifted, dropped or re-paired. -/
theorem C17_coap_request_attribution (op : UInt8) : ∀ (items : List (Nat × Bytes)) (k fuel : Nat),
    k + items.length ≤ 256 → (∀ it ∈ items, it.1 < 65536 ∧ it.2.length < 65536) → items.length < fuel →
    reqReadAll fuel (encFrom op k items) =
      some ((items.zipIdx k).map fun ((iid, data), idx) => (op, idx, iid, data)) := by
  intro items
  induction items with
  | nil =>
    intro k fuel _ _ hf
    cases fuel with
    | zero => exact absurd hf (Nat.not_lt_zero _)
    | succ fuel => rfl
  | cons it items ih =>
    obtain ⟨iid, body⟩ := it
    intro k fuel hk hwf hf
    have hw := hwf (iid, body) (List.mem_cons_self ..)
    cases fuel with
    | zero => exact absurd hf (Nat.not_lt_zero _)
    | succ fuel =>
      rw [List.length_cons, ← Nat.add_assoc, Nat.add_right_comm] at hk
      rw [encFrom_cons, reqReadAll, if_neg (show coapEncodeOne op k iid body ++ _ ≠ [] from List.cons_ne_nil _ _),
        reqReadOne_encode op k iid body _ (Nat.lt_of_succ_le (Nat.le_trans (Nat.le_add_right _ _) hk)) hw.1 hw.2]
      simp only
      rw [ih (k + 1) fuel hk (fun x hx => hwf x (List.mem_cons_of_mem _ hx)) (Nat.lt_of_succ_lt_succ hf), List.zipIdx_cons]
      rfl

/-- the public entry point `encode_all_pdus(opcode, iids, data)` zips its two lists: when the caller passes one value
    per requested id (`write_characteristics`: the ids of ALL items and the values of ALL items) the accessory
    receives, for the i-th requested characteristic, exactly the i-th value -/
theorem C17_coap_write_batch (op : UInt8) (req : List (Nat × Bytes)) (hn : req.length ≤ 256)
    (hwf : ∀ it ∈ req, it.1 < 65536 ∧ it.2.length < 65536) :
    reqReadAll (req.length + 1) (coapEncodeAll op ((req.map (·.1)).zip (req.map (·.2)))) =
      some ((req.zipIdx 0).map fun ((iid, data), idx) => (op, idx, iid, data)) := by
  rw [← List.zip_of_prod rfl rfl]
  exact C17_coap_request_attribution op req 0 _ (by omega) hwf (Nat.lt_succ_self _)

/-- what goes wrong when the two lists do NOT have one entry per requested item (a value list that skipped an item):
    `zip` re-pairs the remaining values with the wrong instance ids and drops the last id - kernel-checked witness of
    why the hypothesis matters -/
example : reqReadAll 4 (coapEncodeAll 2 ([51, 50, 52].zip [[1], [25]])) =
    some [(2, 0, 51, [1]), (2, 1, 50, [25])] := by decide

end HapVerif.C17
