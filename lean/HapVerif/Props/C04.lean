import HapVerif.Model.Protocol
import HapVerif.Proofs.Tlv
import HapVerif.Model.BleReassembly
import HapVerif.Gen.BleReassembly

/-! # C04 - an accessory error or out-of-sequence reply never completes as success -/

namespace HapVerif.C04
open HapVerif HapVerif.Tlv HapVerif.Protocol

/-- HAP Table 5-5 / the documented mapping: 2 → authentication, 3 → back-off, 4 → max-peers,
    5 → max-tries, 6 → unavailable, 7 → busy, anything else → invalid -/
def classOf (code : Bytes) : PErr :=
  if code = [2] then .auth else if code = [3] then .backoff else if code = [4] then .maxPeers
  else if code = [5] then .maxTries else if code = [6] then .unavailable else if code = [7] then .busy
  else .invalid

/-- the generated `if error == ...: raise ...` chain is the documented table, for every code
    value (any length, any bytes) -/
theorem C04_table (code : Bytes) : errorHandler code = classOf code := by
  -- the six codes of the table and the default, by evaluation ...
  have rows : (∀ c ∈ [[2], [3], [4], [5], [6], [7]], errorHandler c = classOf c) ∧
      classOfName Gen.Protocol.errorDefault = .invalid := by decide +kernel
  by_cases hm : code ∈ [[2], [3], [4], [5], [6], [7]]
  · exact rows.1 code hm
  -- ... and any other code finds no row on one side and passes every test on the other
  simp only [List.mem_cons, List.not_mem_nil, or_false, not_or] at hm
  simp only [errorHandler, classOf, Gen.Protocol.errorTable, List.find?, eq_comm (b := code), hm, decide_false, if_false]
  exact rows.2

/-- every step's expectation list admits the State and Error types (so that transports which
    decode with the list still see them) -/
theorem C04_expectations_cover (s : Step) : s.expectations.contains 6 = true ∧ s.expectations.contains 7 = true := by
  cases s <;> decide

theorem view_true (s : Step) (reply : Items) :
    s.view true reply = reply.filter fun it => s.expectations.contains it.1.toNat := by
  cases s <;> rfl

theorem view_of_expected (s : Step) (filtered : Bool) (reply : Items)
    (h : ∀ it ∈ reply, s.expectations.contains it.1.toNat = true) : s.view filtered reply = reply := by
  cases filtered with
  | false => rfl
  | true => rw [view_true, List.filter_eq_self.mpr h]

/-- **Error code**: whatever else the reply carries and in whatever order, if the dict the generator
    sees holds an Error item and its State is absent or the expected one, the step raises the
    documented class for that code and nothing runs after it (no pairing data, no session keys). -/
theorem C04_error_fails {α} (s : Step) (filtered : Bool) (reply : Items) (post : Items → Except PErr α) (code : Bytes)
    (herr : lookup tError (s.view filtered reply) = some code)
    (hst : lookup tState (s.view filtered reply) = none ∨ lookup tState (s.view filtered reply) = some s.state) :
    runStep s filtered reply post = .error (classOf code) := by
  unfold runStep handleStateStep
  rcases hst with h | h <;> simp [h, herr, C04_table]

/-- the same, stated on the reply itself for replies made of the step's protocol fields -/
theorem C04_error_fails_reply {α} (s : Step) (filtered : Bool) (reply : Items) (post : Items → Except PErr α) (code : Bytes)
    (hdom : ∀ it ∈ reply, s.expectations.contains it.1.toNat = true)
    (herr : lookup tError reply = some code)
    (hst : lookup tState reply = none ∨ lookup tState reply = some s.state) :
    runStep s filtered reply post = .error (classOf code) := by
  rw [← view_of_expected s filtered reply hdom] at herr hst
  exact C04_error_fails s filtered reply post code herr hst

/-- **Wrong step number**: a State other than the expected one raises the invalid-reply error,
    with or without an Error item, and nothing runs after it. -/
theorem C04_wrong_state_fails {α} (s : Step) (filtered : Bool) (reply : Items) (post : Items → Except PErr α) (st : Bytes)
    (hst : lookup tState (s.view filtered reply) = some st) (hne : st ≠ s.state) :
    runStep s filtered reply post = .error .invalid := by
  unfold runStep handleStateStep
  simp [hst, hne]

/-- success of a step implies there was no Error item and no foreign State in what the generator saw -/
theorem C04_success_implies_clean {α} (s : Step) (filtered : Bool) (reply : Items) (post : Items → Except PErr α) (a : α)
    (h : runStep s filtered reply post = .ok a) :
    lookup tError (s.view filtered reply) = none ∧
      (lookup tState (s.view filtered reply) = none ∨ lookup tState (s.view filtered reply) = some s.state) := by
  have hst : lookup tState (s.view filtered reply) = none ∨ lookup tState (s.view filtered reply) = some s.state := by
    cases hs : lookup tState (s.view filtered reply) with
    | none => exact .inl rfl
    | some st =>
      by_cases hne : st = s.state
      · exact .inr (congrArg some hne)
      · exact nomatch (C04_wrong_state_fails s filtered reply post st hs hne).symm.trans h
  cases he : lookup tError (s.view filtered reply) with
  | none => exact ⟨rfl, hst⟩
  | some code => exact nomatch (C04_error_fails s filtered reply post code he hst).symm.trans h

/-- **Add pairing (IP)**: an error or a foreign step number is a library error, never "done". -/
theorem C04_pairings_ip_add (reply : Items) :
    (∀ code, lookup tError reply = some code → ∃ e, ipAddPairing reply = .error e) ∧
    (∀ st, lookup tState reply = some st → st ≠ [2] → ipAddPairing reply = .error .invalid) ∧
    (∀ code, lookup tError reply = some code → (lookup tState reply = none ∨ lookup tState reply = some [2]) →
        ipAddPairing reply = .error (classOf code)) := by
  refine ⟨?_, ?_, ?_⟩
  · intro code h
    unfold ipAddPairing
    split
    · exact ⟨_, rfl⟩
    · simp [h]
  · intro st h hne
    unfold ipAddPairing
    simp [h, hne]
  · intro code h hst
    unfold ipAddPairing
    rcases hst with h2 | h2 <;> simp [h2, h, C04_table]

/-- **Remove pairing (IP), add/remove pairing (BLE)** -/
theorem C04_pairings_remove_like (reply : Items) :
    (∀ code, lookup tError reply = some code → ∃ e, removeLike reply = .error e) ∧
    (∀ st, lookup tState reply = some st → st ≠ [2] → removeLike reply = .error .invalid) := by
  refine ⟨?_, ?_⟩
  · intro code h
    unfold removeLike
    split
    · exact ⟨_, rfl⟩
    · simp only [h]
      split <;> exact ⟨_, rfl⟩
  · intro st h hne
    unfold removeLike
    simp [h, hne]

/-- an Error item is seen by the generator wherever it stands in the reply, also behind items of
    types the step does not expect (which the filtering transports drop) -/
theorem C04_error_survives_filter (s : Step) (reply : Items) (code : Bytes)
    (h : (tError, code) ∈ reply) : ∃ c, lookup tError (s.view true reply) = some c := by
  rw [view_true]
  exact lookup_of_mem (List.mem_filter.mpr ⟨h, (C04_expectations_cover s).2⟩)

/-- non-vacuity: a reply with an `Error` item and no `State`, on every step -/
example : ∀ s : Step, runStep s true [(7, [2]), (3, [1]), (2, [9])] (fun _ => (.ok () : Except PErr Unit)) = .error .auth := by
  intro s; cases s <;> decide +kernel

/-- tie to the TLV constants the model hard-codes -/
theorem C04_gen_tie : Gen.Tlv.kTLVType_State = 6 ∧ Gen.Tlv.kTLVType_Error = 7 ∧ Gen.Tlv.M2 = [2] ∧ Gen.Tlv.M4 = [4] ∧
    Gen.Tlv.M6 = [6] ∧ Gen.Tlv.kTLVType_PublicKey = 3 ∧ Gen.Tlv.kTLVType_Salt = 2 ∧ Gen.Tlv.kTLVType_Proof = 4 ∧
    Gen.Tlv.kTLVType_EncryptedData = 5 :=
  ⟨rfl, rfl, rfl, rfl, rfl, rfl, rfl, rfl, rfl⟩

/-! ## Over BLE: what the state machine is handed when the accessory's reply arrives in fragments -/

section BleDelivery
open HapVerif.BleReassembly

theorem loop_data_chunks (chunks : List Bytes) (buf : Bytes) (rest : List Reply) (fuel : Nat) :
    loop fuel buf (chunks.map .data ++ rest) = loop (fuel - chunks.length) (buf ++ chunks.flatten) rest := by
  induction chunks generalizing fuel buf with
  | nil =>
    rw [List.flatten_nil, List.append_nil]
    rfl
  | cons c cs ih =>
    cases fuel with
    -- out of fuel: `loop 0 ..` on both sides
    | zero =>
      rw [Nat.zero_sub]
      rfl
    | succ fuel =>
      show loop (fuel + 1) buf (.data c :: (cs.map .data ++ rest)) = _
      rw [loop, ih, List.flatten_cons, List.append_assoc, List.length_cons, Nat.add_sub_add_right]

/-- **a complete transfer is reassembled to exactly the bytes the accessory cut up** - any number of `FragmentData` chunks
    below the bound, of any sizes (empty ones included), then `FragmentLast`: the state machine is handed the decoding of
    the concatenation, i.e. of the reply itself, so everything C04 proves about a reply holds for it however it was cut -/
theorem C04_ble_transfer_reassembled (chunks : List Bytes) (last : Bytes) (more : List Reply) (mx : Nat)
    (h : chunks.length < mx) :
    run mx (chunks.map .data ++ [.last last] ++ more) = .assembled (chunks.flatten ++ last) := by
  rw [run, List.append_assoc, loop_data_chunks, ← Nat.succ_pred_eq_of_pos (Nat.sub_pos_of_lt h)]
  rfl

/-- **an unfragmented reply stands alone**: when, after any number of `FragmentData` chunks, the accessory answers with a
    reply that carries no fragment item - its error reply, a reply of another step - THAT reply is what the state machine is
    handed, whatever has been buffered and whatever would follow; the buffered chunks never stand in for it -/
theorem C04_ble_plain_reply_wins (chunks : List Bytes) (p : Nat) (more : List Reply) (mx : Nat) (h : chunks.length < mx) :
    run mx (chunks.map .data ++ [.plain p] ++ more) = .plain p := by
  rw [run, List.append_assoc, loop_data_chunks, ← Nat.succ_pred_eq_of_pos (Nat.sub_pos_of_lt h)]
  rfl

/-- non-vacuity: three chunks, then an error reply -/
example : run 50 [.data [1, 2], .data [3], .data [], .plain 7, .last [9]] = .plain 7 :=
  C04_ble_plain_reply_wins [[1, 2], [3], []] 7 [.last [9]] 50 (by decide)

/-- a transfer that never ends is refused after `maxReassembly` replies -/
theorem C04_ble_too_many (chunks : List Bytes) (more : List Reply) (mx : Nat) (h : mx ≤ chunks.length) :
    run mx (chunks.map .data ++ more) = .tooMany := by
  rw [run, loop_data_chunks, Nat.sub_eq_zero_of_le h]
  rfl

/-- **the loop of the model is the loop of the source** (`C04_gen_ble_reassembly_tie`): the bound, the ORDER of the two tests
    (`FragmentLast` first), what each branch does (extend + decode the buffer + return; extend + acknowledge; otherwise
    `return decoded` - the unfragmented reply as it is), the empty initial buffer and the `ValueError` after the loop, lifted
    from `_pairing_char_write` on every run -/
theorem C04_gen_ble_reassembly_tie :
    Gen.BleReassembly.maxReassembly = 50 ∧
    Gen.BleReassembly.test1 = "TLV.kTLVType_FragmentLast in decoded" ∧
    Gen.BleReassembly.do1 = ["extend:decoded[TLV.kTLVType_FragmentLast]", "return:dict(TLV.decode_bytes(buffer))"] ∧
    Gen.BleReassembly.else1 = [] ∧
    Gen.BleReassembly.test2 = "TLV.kTLVType_FragmentData in decoded" ∧
    Gen.BleReassembly.do2 = ["extend:decoded[TLV.kTLVType_FragmentData]", "ack"] ∧
    Gen.BleReassembly.else2 = ["return:decoded"] ∧
    Gen.BleReassembly.bufferInit = ["bytearray()"] ∧ Gen.BleReassembly.afterLoop = "ValueError" :=
  ⟨rfl, rfl, rfl, rfl, rfl, rfl, rfl, rfl, rfl⟩

end BleDelivery

end HapVerif.C04
