import HapVerif.Proofs.Subs
import HapVerif.Proofs.CoapEvent
import HapVerif.Gen.CoapEvent

/-! # C12 - subscriptions survive reconnects and every event reaches every listener once

Statements over the subscription/listener automaton `HapVerif.Subs` (tied to
`aiohomekit/controller/ip/pairing.py`, `abstract.py`, `ip/connection.py` by `harness/c12.py`). -/

namespace HapVerif.Subs

/-- the set of characteristics the caller wants events for changes only through subscribe / unsubscribe calls:
    no disconnection, reconnection, listener change or event touches it -/
theorem C12_wanted_persistent (s : St) (e : Ev)
    (he : ∀ cs, e ≠ .subscribe cs ∧ e ≠ .unsubscribe cs ∧ e ≠ .cutSubscribe cs) :
    (step s e).wanted = s.wanted := by
  rw [step_eq]
  cases e with
  | subscribe cs => exact absurd rfl (he cs).1
  | unsubscribe cs => exact absurd rfl (he cs).2.1
  | cutSubscribe cs => exact absurd rfl (he cs).2.2
  | _ => rfl

/-- subscribe adds exactly the given characteristics, unsubscribe removes exactly them (when the accessory
    reports no per-characteristic error), a subscribe that is cut off still records them -/
theorem C12_wanted_updates (s : St) (cs : List Ch) (x : Ch) :
    (x ∈ (step s (.subscribe cs)).wanted ↔ x ∈ s.wanted ∨ x ∈ cs) ∧
    (x ∈ (step s (.cutSubscribe cs)).wanted ↔ x ∈ s.wanted ∨ x ∈ cs) ∧
    (x ∈ (step s (.unsubscribe cs)).wanted ↔ x ∈ s.wanted ∧ x ∉ cs) := by
  simp only [step_eq]
  exact ⟨mem_union .., mem_union .., mem_diff ..⟩

/-- every successful (re)connection opens a new session on which - unless the polling fallback has been
    entered - the accessory is asked again for exactly the wanted set; the wanted set itself is untouched -/
theorem C12_resubscribed (s : St) (hd : s.connected = false) :
    (step s .connect).connected = true ∧ (step s .connect).session = s.session + 1 ∧
    (step s .connect).wanted = s.wanted ∧ (step s .connect).supports = s.supports ∧
    (s.supports = true → ∀ x, x ∈ (step s .connect).registered ↔ x ∈ s.wanted) ∧
    (s.supports = false → (step s .connect).registered = []) := by
  rw [step_eq]
  obtain ⟨w, sup, con, n, r, ls, g⟩ := s
  cases hd
  refine ⟨rfl, rfl, rfl, rfl, fun hs x => ?_, fun hs => ?_⟩
  · cases hs
    exact (mem_union ..).trans (or_iff_right List.not_mem_nil)
  · cases hs
    rfl

/-- events never change what is subscribed, the session or the connection -/
theorem C12_events_frame (s : St) (bodies : List Body) :
    (step s (.events bodies)).wanted = s.wanted ∧ (step s (.events bodies)).registered = s.registered ∧
    (step s (.events bodies)).connected = s.connected ∧ (step s (.events bodies)).supports = s.supports := by
  rw [step_eq]
  exact ⟨rfl, rfl, rfl, rfl⟩

/-- junk bodies are ignored without any effect; while disconnected nothing is delivered -/
theorem C12_junk_ignored (s : St) (bodies : List Body) :
    deliverBody s .empty = s ∧ deliverBody s .notJson = s ∧ deliverBody s .notUtf8 = s ∧
    (s.connected = false → step s (.events bodies) = s) :=
  ⟨rfl, rfl, rfl, fun h => if_neg (h ▸ nofun)⟩

/-- the polling fallback is entered only by a subscription request that was cut off by a disconnection -/
theorem C12_fallback_only_by_cut (s : St) (e : Ev) (hs : s.supports = true)
    (hf : (step s e).supports = false) : ∃ cs, e = .cutSubscribe cs ∧ s.connected = true := by
  rw [step_eq] at hf
  cases e with
  | cutSubscribe cs => exact ⟨cs, rfl, Bool.not_eq_eq_eq_not.mp (Bool.and_eq_false_imp.mp hf hs)⟩
  | _ => cases hs.symm.trans hf

/-- in every reachable state: while connected (and not in the polling fallback) the accessory has been asked,
    on the current session, for every wanted characteristic; while disconnected nothing is registered -/
theorem C12_registered_covers_wanted (evs : List Ev) : Inv (run {} evs) :=
  List.foldlRecOn evs step (.of_down rfl rfl) fun s h e _ => step_inv s e h

/-- one delivery calls every listener of the snapshot exactly once - whatever the other listeners do (raise,
    unregister themselves, register new ones) - and leaves the connection alone -/
theorem C12_deliver_exactly_once (s : St) (keys : List Ch) :
    (∀ l ∈ s.listeners, l.kind ≠ .removesSelf → { l with log := l.log ++ [keys] } ∈ (deliver s keys).listeners) ∧
    (∀ l ∈ s.listeners, l.kind = .removesSelf → { l with log := l.log ++ [keys] } ∈ (deliver s keys).gone) ∧
    (∀ l' ∈ (deliver s keys).listeners,
      (∃ l ∈ s.listeners, l' = { l with log := l.log ++ [keys] }) ∨ (l'.log = [] ∧ l'.kind = .normal)) ∧
    (∀ l' ∈ (deliver s keys).gone,
      l' ∈ s.gone ∨ ∃ l ∈ s.listeners, l' = { l with log := l.log ++ [keys] }) ∧
    (deliver s keys).connected = s.connected :=
  ⟨fun _ => deliver_told keys, fun _ => deliver_told_gone keys, fun _ => mem_deliver_listeners, fun _ => mem_deliver_gone, rfl⟩

/-- ... and every registered listener is told that the connection is back, exactly once -/
theorem C12_told_connection_back (s : St) (hd : s.connected = false) (l : Listener) (hl : l ∈ s.listeners) :
    { l with log := l.log ++ [[]] } ∈ (step s .connect).listeners ++ (step s .connect).gone := by
  rw [step_eq]
  obtain ⟨w, sup, con, n, r, ls, g⟩ := s
  cases hd
  by_cases hk : l.kind = .removesSelf
  · exact List.mem_append_right _ (deliver_told_gone [] hl hk)
  · exact List.mem_append_left _ (deliver_told [] hl hk)

/-- a burst of EVENT messages - several per read, or split across reads - reaches every listener that stays
    registered once per message, in the order sent; empty, non-JSON and non-UTF-8 bodies deliver nothing and
    do not disturb the messages around them -/
theorem C12_burst_in_order (bodies : List Body) (s : St) (l : Listener) (hl : l ∈ s.listeners)
    (hk : l.kind ≠ .removesSelf) :
    { l with log := l.log ++ keysOf bodies } ∈ (bodies.foldl deliverBody s).listeners :=
  burst_told bodies hl hk

/-- **Exactly once, in order, over whole histories.**  A listener that is registered and is not removed during a
    history has, at its end, been called exactly with the events the accessory sent while the pairing was connected
    (one call per EVENT message, in the order sent) and one "connection is back" call per reconnection - nothing
    more, nothing less, whatever else happened in between (subscribe/unsubscribe, drops, other listeners coming,
    going, raising). -/
theorem C12_history_exactly_once (evs : List Ev) (s : St) (l : Listener) (hl : l ∈ s.listeners)
    (hk : l.kind ≠ .removesSelf) (hr : ∀ e ∈ evs, e ≠ .removeListener l.id) :
    { l with log := l.log ++ deliveredTo s evs } ∈ (run s evs).listeners := by
  show told l (deliveredTo s evs) ∈ _
  -- `l`'s log grows with the state: generalise it too
  induction evs generalizing s l with
  | nil => rwa [deliveredTo, told_nil]
  | cons e es ih =>
    have := ih _ _ (told_mem_step s e l hl hk (hr e (.head _))) hk fun e' he' => hr e' (.tail _ he')
    rwa [told_told] at this

/-- non-vacuity: subscribe while down, connect (re-subscription + "back"), a raising and a self-removing
    listener next to a normal one, a burst with junk in the middle, a drop and a second connect -/
example :
    let s := run {} [.addListener 1 .normal, .addListener 2 .raises, .addListener 3 .removesSelf,
      .subscribe [(1, 10), (2, 20)], .connect,
      .events [.chars [(1, 10)], .notUtf8, .chars [(2, 20)]], .drop, .connect]
    s.registered = [(1, 10), (2, 20)] ∧ s.session = 2 ∧
    s.listeners = [⟨1, .normal, [[], [(1, 10)], [(2, 20)], []]⟩, ⟨2, .raises, [[], [(1, 10)], [(2, 20)], []]⟩] ∧
    s.gone = [⟨3, .removesSelf, [[]]⟩] := by decide +kernel

/-- **Last effect wins**: after ANY history of overlapping calls a characteristic is in `subscriptions` iff the
    last call-effect naming it (the start of a subscribe, the return of an unsubscribe) was a subscribe's - or,
    if none named it, iff it was there before.  Nothing else (requests arriving, drops, reconnections, effects of
    calls on other characteristics) matters. -/
theorem C12_overlap_last_effect_wins (evs : List OEv) (s : OSt) (x : Ch) :
    x ∈ (orun s evs).wanted ↔ (match lastEffect x evs with | some b => b = true | none => x ∈ s.wanted) := by
  induction evs generalizing s with
  | nil => exact Iff.rfl
  | cons e es ih =>
    rw [show orun s (e :: es) = orun (ostep s e) es from rfl, ih, lastEffect_cons]
    cases lastEffect x es with
    | some b => exact Iff.rfl
    | none => exact ostep_wanted_mem s e x

/-- **A subscribe issued while other calls are in flight is kept**: if `subscribe(cs)` starts at any point of a
    history and no unsubscribe naming `x ∈ cs` RETURNS afterwards, `x` is in `subscriptions` at the end - in
    particular when an `unsubscribe(X)` with `x ∉ X` was issued earlier and returns later. -/
theorem C12_overlap_concurrent_subscribe_kept (pre post : List OEv) (s : OSt) (cs : List Ch) (x : Ch)
    (hx : x ∈ cs) (hpost : ∀ e ∈ post, effectOn x e ≠ some false) :
    x ∈ (orun s (pre ++ [.addWanted cs] ++ post)).wanted := by
  have hadd : effectOn x (.addWanted cs) = some true := by simp [effectOn, hx]
  rw [C12_overlap_last_effect_wins, List.append_assoc, lastEffect_append, List.singleton_append, lastEffect_cons, hadd]
  cases hp : lastEffect x post with
  | none => rfl
  | some b =>
    cases b with
    | true => rfl
    | false =>
      obtain ⟨e, he, hv⟩ := lastEffect_mem x post false hp
      exact absurd hv (hpost e he)

/-- **A reconnection asks for exactly what is wanted at that moment** - including what subscribes still in
    flight have added and excluding only what unsubscribes that already returned have removed. -/
theorem C12_overlap_reconnect_registers_wanted (s : OSt) (x : Ch) :
    x ∈ (ostep s .reconnect).registered ↔ x ∈ s.wanted := by
  simp [ostep]

/-- sequential calls are the special case: on a connected pairing `subscribe` / `unsubscribe` of the base
    automaton change `wanted` exactly as the start of a subscribe / the return of an unsubscribe do here -/
theorem C12_overlap_extends_sequential (s : St) (cs : List Ch) :
    (step s (.subscribe cs)).wanted = (ostep ⟨s.wanted, s.registered⟩ (.addWanted cs)).wanted ∧
    (step s (.unsubscribe cs)).wanted = (ostep ⟨s.wanted, s.registered⟩ (.removeWanted cs)).wanted := by
  rw [step_eq, step_eq]
  exact ⟨rfl, rfl⟩

/-- non-vacuity, the schedule of a snapshot bug: `unsubscribe({2.20})` is unanswered, `subscribe({1.10, 1.11})`
    starts and is registered by the accessory, then the unsubscribe returns; after a drop and a reconnection the
    accessory is asked again for 1.10 and 1.11 -/
example :
    let s := orun { wanted := [(2, 20)], registered := [(2, 20)] }
      [.accUnreg [(2, 20)], .addWanted [(1, 10), (1, 11)], .accReg [(1, 10), (1, 11)], .removeWanted [(2, 20)], .drop, .reconnect]
    s.wanted = [(1, 10), (1, 11)] ∧ s.registered = [(1, 10), (1, 11)] := by decide

section CoapEvents
open HapVerif.CoapEvent

/-- **every record of a notification a conformant accessory sends over CoAP is handed to the owner exactly once and in
    order** - any number of records, any instance ids, bodies of any length, EMPTY bodies at every position included -/
theorem C12_coap_event_records (rs : List Rec) (hne : rs ≠ []) (hwf : ∀ r ∈ rs, WF r) :
    parse (encode rs) = (rs, .ok) := by
  have := parse_encode [] (by decide) rs hne hwf
  rwa [List.append_nil] at this

/-- non-vacuity, and the shape an early stop gets wrong: two records, the last with an empty body -/
example : parse (encode [⟨51, [1, 1, 1]⟩, ⟨56, []⟩]) = ([⟨51, [1, 1, 1]⟩, ⟨56, []⟩], .ok) :=
  C12_coap_event_records _ (List.cons_ne_nil _ _) (by intro r hr; simp at hr; rcases hr with rfl | rfl <;> simp [WF])

/-- a notification that ends inside a record header is a `struct.error` - after the complete records before it have been
    handed over (they are not taken back) -/
theorem C12_coap_event_truncated_header (r : Rec) (hwf : WF r) (junk : Bytes) (hj : 0 < junk.length) (hj5 : junk.length < 5) :
    parse (encode [r] ++ junk) = ([r], .structError) := by
  rw [parse_encode junk hj5 [r] (List.cons_ne_nil _ _) (fun x hx => List.mem_singleton.mp hx ▸ hwf),
    if_neg (by rw [List.isEmpty_iff]; exact List.length_pos_iff.mp hj)]

/-- **the loop of the model is the loop of the source** (`C12_gen_coap_event_tie`): header format, the five bytes unpacked,
    the body slice, the advance, the start and - the piece an early stop changes - the stop test `offset >= len(payload)`,
    lifted from `EventResource.render_put` on every run (the translator also checks that the stop test is the LAST statement
    of the loop body, so every record is handed over before the loop can stop) -/
theorem C12_gen_coap_event_tie :
    Gen.CoapEvent.fmtSrc = "<BHH" ∧ Gen.CoapEvent.unpackedSrc = "payload[offset:offset + 5]" ∧
    Gen.CoapEvent.bodySrc = "payload[offset + 5:offset + 5 + body_len]" ∧ Gen.CoapEvent.advanceSrc = "5 + body_len" ∧
    Gen.CoapEvent.stopSrc = "offset >= len(payload)" ∧ Gen.CoapEvent.initSrc = "0" :=
  ⟨rfl, rfl, rfl, rfl, rfl, rfl⟩

end CoapEvents

end HapVerif.Subs
