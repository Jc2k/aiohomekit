import HapVerif.Model.Store
import HapVerif.Proofs.EntityMap
import HapVerif.Proofs.EntityMapGen

/-! # C20 - saved pairings and the accessory cache survive restart and interrupted saves

Crash points of `save_data` (`Model/Store.lean`); `Accessories.serialize()` / `from_list()` and the write-through cache file
(`Model/EntityMap.lean`).  Outside the theorems: the JSON text layer (`hkjson`) and CPython dictionaries (harness only). -/

namespace HapVerif.C20
open HapVerif.Store

theorem crash_saveOps (old tmp : File) (new : Bytes) (done : Nat) (cutAt : Option Nat) :
    (crash ⟨old, tmp⟩ (saveOps new) done cutAt).target = old ∨
    (crash ⟨old, tmp⟩ (saveOps new) done cutAt).target = some new := by
  unfold crash saveOps
  -- the target changes only at op 2, the `replace`, which `cut` does not touch
  match done, cutAt with
  | 0, none | 0, some _ | 1, none | 1, some _ | 2, none => exact .inl rfl
  | 2, some _ => exact .inr rfl
  | _ + 3, none | _ + 3, some _ => exact .inr (by simp [apply])

/-- **Crash safety of `save_data`**: for every previous content of the pairing file (or none), every
    new content, and every crash point - before or after creating the temporary file, after any
    prefix of the bytes, before or after the replace - the pairing file afterwards holds either
    exactly the old bytes or exactly the complete new bytes. -/
theorem C20_save_crash_safe (old : File) (new : Bytes) (done : Nat) (cutAt : Option Nat) :
    (crash ⟨old, none⟩ (saveOps new) done cutAt).target = old ∨
    (crash ⟨old, none⟩ (saveOps new) done cutAt).target = some new :=
  crash_saveOps old none new done cutAt

/-- a completed save holds the new content and leaves no temporary file behind -/
theorem C20_save_complete (old : File) (new : Bytes) :
    (saveOps new).foldl apply ⟨old, none⟩ = ⟨some new, none⟩ := rfl

/-- a stale temporary file left by an earlier crash does not matter: it is truncated first -/
theorem C20_stale_tmp_harmless (old : File) (junk new : Bytes) (done : Nat) (cutAt : Option Nat) :
    (crash ⟨old, some junk⟩ (saveOps new) done cutAt).target = old ∨
    (crash ⟨old, some junk⟩ (saveOps new) done cutAt).target = some new :=
  crash_saveOps old (some junk) new done cutAt

/-- **The unchanged tree's in-place save was not crash safe**: a crash right after the truncating
    open leaves an empty pairing file - neither the old nor the new data. -/
theorem C20_counterexample_inplace :
    (crash ⟨some [1, 2, 3], none⟩ (saveOpsInPlace [4, 5]) 1 none).target = some [] := by decide

/-- loading after a crash therefore yields the old or the new pairings, for any loader -/
theorem C20_load_after_crash {D} (load : File → D) (old : File) (new : Bytes) (done : Nat) (cutAt : Option Nat) :
    load (crash ⟨old, none⟩ (saveOps new) done cutAt).target = load old ∨
    load (crash ⟨old, none⟩ (saveOps new) done cutAt).target = load (some new) :=
  (C20_save_crash_safe old new done cutAt).imp (congrArg load) (congrArg load)

/-! ## The accessory database round trip -/

open HapVerif.EntityMap

/-- **A characteristic is read back unchanged** (every attribute), for every metadata table and every
    normaliser, whenever the object is in normal form. -/
theorem C20_char_roundtrip (norm : String → String) (tbl : Table) (c : EntityMap.Char) (h : NF norm tbl c) :
    loadChar norm tbl (serChar c) = .ok c :=
  loadChar_serChar norm tbl c h

/-- **Restart after restart**: whatever `create_from_dict` builds from a clean characteristic dictionary is
    serialised to a dictionary that loads to the very same object. -/
theorem C20_char_restart (norm : String → String) (tbl : Table) (hn : ∀ s, norm (norm s) = norm s)
    (d : CharD) (c : EntityMap.Char) (hc : Clean d) (h : loadChar norm tbl d = .ok c) (hb : BoolPlain c) :
    loadChar norm tbl (serChar c) = .ok c :=
  loadChar_serChar norm tbl c (loadChar_NF norm tbl hn d c hc h hb)

/-- value updates (events, polls, writes echoed to the model) on a readable characteristic -/
def applyValues (c : EntityMap.Char) (vs : List J) : EntityMap.Char := vs.foldl setValue c

theorem applyValues_format (c : EntityMap.Char) (vs : List J) : (applyValues c vs).format = c.format :=
  List.foldlRecOn vs setValue (motive := fun c' : EntityMap.Char => c'.format = c.format) rfl fun _ h _ _ => h

theorem applyValues_concat (c : EntityMap.Char) (vs : List J) (v : J) :
    applyValues c (vs ++ [v]) = setValue (applyValues c vs) v :=
  List.foldl_append ..

/-- the invariant carries readability, which `set_value` leaves alone -/
theorem applyValues_NF (norm : String → String) (tbl : Table) (c : EntityMap.Char) (vs : List J)
    (h : NF norm tbl c) (hp : c.perms.contains "pr" = true) (hv : ∀ v ∈ vs, v ≠ .null) :
    NF norm tbl (applyValues c vs) :=
  (List.foldlRecOn vs setValue (motive := fun c' : EntityMap.Char => NF norm tbl c' ∧ c'.perms.contains "pr" = true) ⟨h, hp⟩
    fun c' hc' v hvm => ⟨setValue_NF norm tbl c' v hc'.1 hc'.2 (hv v hvm), hc'.2⟩).1

/-- **Every reachable state round-trips**: after any number of `set_value` calls with real values on a readable
    characteristic that was loaded from a clean dictionary, serialise + load returns the current object -
    in particular the latest value. -/
theorem C20_char_reachable_roundtrip (norm : String → String) (tbl : Table) (c : EntityMap.Char) (vs : List J)
    (h : NF norm tbl c) (hp : c.perms.contains "pr" = true) (hv : ∀ v ∈ vs, v ≠ .null) :
    loadChar norm tbl (serChar (applyValues c vs)) = .ok (applyValues c vs) :=
  loadChar_serChar norm tbl _ (applyValues_NF norm tbl c vs h hp hv)

/-- the value read back after a restart is the last one stored (bool characteristics store `bool(v)`) -/
theorem C20_last_value_survives (norm : String → String) (tbl : Table) (c : EntityMap.Char) (vs : List J) (v : J)
    (h : NF norm tbl c) (hp : c.perms.contains "pr" = true) (hv : ∀ x ∈ vs ++ [v], x ≠ .null) :
    (loadChar norm tbl (serChar (applyValues c (vs ++ [v])))).map (·.value) = .ok (coerce c.format v) := by
  rw [C20_char_reachable_roundtrip norm tbl c (vs ++ [v]) h hp hv, applyValues_concat, ← applyValues_format c vs]
  rfl

/-- **A whole accessory is read back unchanged**: services in declaration order with their types, instance ids,
    characteristics and links. -/
theorem C20_accessory_roundtrip (norm : String → String) (tbl : Table) (a : Accessory) (h : NFA norm tbl a) :
    loadAccessory norm tbl (serAccessory a) = .ok a :=
  loadAccessory_ser norm tbl a h

/-- a list of accessories (`Accessories.serialize` / `from_list`) -/
theorem C20_accessories_roundtrip (norm : String → String) (tbl : Table) (as : List Accessory)
    (h : ∀ a ∈ as, NFA norm tbl a) :
    (as.map serAccessory).mapM (loadAccessory norm tbl) = .ok as :=
  (mapM_map_ok _ _ id as fun a ha => loadAccessory_ser norm tbl a (h a ha)).trans (congrArg _ (List.map_id as))

/-! ### The hypotheses are met (non-vacuity) and each excluded point really behaves differently -/

def tbl0 : Table := fun ty =>
  if ty = "BRIGHTNESS" then some { format := some (.str "int"), description := some (.str "Brightness"), unit := some (.str "percentage"), minValue := some (.num 0), maxValue := some (.num 100), minStep := some (.num 1) }
  else none

def d0 : CharD := { type := "brightness", iid := 9, perms := ["pr", "pw", "ev"], format := some (.str "int"), value := some (.num 40), minValue := some (.num 10) }

def c0 : EntityMap.Char := { type := "BRIGHTNESS", iid := 9, perms := ["pr", "pw", "ev"], format := .str "int", value := .num 40, ev := .null, description := .str "Brightness", unit := .str "percentage", minValue := .num 10, maxValue := .num 100, minStep := .num 1, maxLen := .num 64, validValues := .null, handle := .null, disconnectedEvents := .null, broadcastEvents := .null }

example : loadChar String.toUpper tbl0 d0 = .ok c0 := by decide +kernel
example : loadChar String.toUpper tbl0 (serChar c0) = .ok c0 := by decide +kernel

def dEmptyDesc : CharD := { d0 with description := some (.str "") }

def dWriteOnly : CharD := { d0 with perms := ["pw"] }

def dNullValue : CharD := { d0 with value := some .null }

def cNullValue : EntityMap.Char := { c0 with value := .null }

/-- the excluded point `"description": ""` on a type whose table carries a description: the empty string is not
    serialised and the table's text comes back (replayed on the real code by the harness; `description` is not
    among the attributes the property lists) -/
theorem C20_excluded_empty_description :
    (loadChar String.toUpper tbl0 dEmptyDesc).map (·.description) = .ok (.str "") ∧
    ((loadChar String.toUpper tbl0 dEmptyDesc).bind
      (fun c => loadChar String.toUpper tbl0 (serChar c))).map (·.description) = .ok (.str "Brightness") := by
  decide +kernel

/-- the excluded point: a value on a characteristic without the read permission is kept by `create_from_dict`
    but never serialised -/
theorem C20_excluded_value_without_read :
    (loadChar String.toUpper tbl0 dWriteOnly).map (·.value) = .ok (.num 40) ∧
    ((loadChar String.toUpper tbl0 dWriteOnly).bind
      (fun c => loadChar String.toUpper tbl0 (serChar c))).map (·.value) = .ok .null := by
  decide +kernel

/-- the excluded point: a readable characteristic whose value is `null` comes back with the constructor's
    default for its format and range -/
theorem C20_excluded_null_value :
    ((loadChar String.toUpper tbl0 dNullValue).bind
      (fun c => pure (setValue c .null))).map (·.value) = .ok .null ∧
    (loadChar String.toUpper tbl0 (serChar cNullValue)).map (·.value) = .ok (.num 10) := by
  decide +kernel

/-! ## The model is the source's own tables (regenerated on every run) -/

/-- **The model's serialiser is the generated table**: for every characteristic object, interpreting the
    (key, condition, attribute) rows extracted from `to_accessory_and_service_list` yields exactly the entries of
    `serChar` - same keys, same order, same conditions (`is not None` vs truthiness vs the read permission), same
    attributes. -/
theorem C20_gen_serialiser (c : EntityMap.Char) :
    serByTable Gen.EntityMap.ser c = dictEntries (serChar c) := by
  have hrows : Gen.EntityMap.ser.filter (fun r => r.1 ≠ "type" ∧ r.1 ≠ "iid" ∧ r.1 ≠ "perms") =
      Gen.EntityMap.ser.drop 3 := by simp [Gen.EntityMap.ser]
  have hkeys : dictEntries (serChar c) = ((Gen.EntityMap.ser.drop 3).map (·.1)).filterMap _ := rfl
  -- both sides run over the same rows; they agree row by row
  rw [serByTable, hrows, hkeys, List.filterMap_map]
  refine (filterMap_congr ?_).symm
  simp only [Gen.EntityMap.ser, List.drop_succ_cons, List.drop_zero, List.forall_mem_cons, List.not_mem_nil,
    false_imp_iff, implies_true, and_true, Function.comp_apply]
  refine ⟨rfl, map_emitIf _ _ _, map_emitIf _ _ _, map_emitIf _ _ _, map_emitIf _ _ _, map_emitIf _ _ _,
    map_emitIf _ _ _, map_emitIf _ _ _, ?maxLen, map_emitIf _ _ _, map_emitIf _ _ _, map_emitIf _ _ _, map_emitIf _ _ _⟩
  -- the only compound condition: `if self.maxLen and self.format in [string]`
  rw [condHolds, List.any_cons, List.any_nil, Bool.or_false]
  exact map_emitIf _ _ _

/-- **The model's constructor plumbing is the generated tables**: every attribute `__init__` takes through
    `_get_configuration` is, in the model, the value of the JSON key that `create_from_dict` forwards under that
    keyword, else the metadata table's entry of that keyword, else `None` - for every dictionary, table and
    normaliser; `ev` and `maxLen` are the constants of the source. -/
theorem C20_gen_constructor (norm : String → String) (tbl : Table) (d : CharD) (v0 : J) :
    (∀ r ∈ Gen.EntityMap.ctor, r.1 ≠ "iid" → r.1 ≠ "perms" →
      attrOf (buildChar norm tbl d v0) r.1 = ctorByTable Gen.EntityMap.forward norm tbl d r.2.1) ∧
    Gen.EntityMap.consts = [("ev", "None"), ("maxLen", "64")] ∧
    (buildChar norm tbl d v0).ev = .null ∧ (buildChar norm tbl d v0).maxLen = .num 64 ∧
    (buildChar norm tbl d v0).iid = d.iid ∧ (buildChar norm tbl d v0).perms = d.perms ∧
    Gen.EntityMap.kwargs0 = ["{'perms': char_data['perms']}"] := by
  refine ⟨?_, rfl, rfl, rfl, rfl, rfl, rfl⟩
  simp only [Gen.EntityMap.ctor, List.forall_mem_cons, List.not_mem_nil, false_imp_iff, implies_true, and_true]
  refine ⟨fun h _ => absurd rfl h, fun _ h => absurd rfl h, ?_, ?_, ?_, ?_, ?_, ?_, ?_, ?_, ?_, ?_⟩
  all_goals
    intro _ _
    unfold ctorByTable
    rfl

/-- the per-format defaults of the model are `DEFAULT_FOR_TYPE` of the source, and every other format has none -/
theorem C20_gen_defaults :
    (∀ r ∈ Gen.EntityMap.defaults, defaultFor (.str r.1) = pyLit r.2) ∧
    (∀ f : String, f ∉ Gen.EntityMap.defaults.map (·.1) → defaultFor (.str f) = .null) := by
  refine ⟨by decide +kernel, fun f hf => ?_⟩
  simp only [Gen.EntityMap.defaults, List.map_cons, List.map_nil, List.mem_cons, List.not_mem_nil, or_false, not_or] at hf
  unfold defaultFor
  split
  -- the ten keys of `DEFAULT_FOR_TYPE`, in source order
  iterate 10
    next h =>
      cases h
      simp only [not_true_eq_false, false_and, and_false] at hf
  next => rfl

/-- the remaining guards of the source, as the model has them: `set_value` coerces only for the bool format, a value
    is applied only when it is not `None`, a link 0 is skipped, the links are emitted only when there are any, and a
    service takes a fresh id only when the given one is 0 -/
theorem C20_gen_guards :
    Gen.EntityMap.coerce = ["self.format == CharacteristicFormats.bool"] ∧
    Gen.EntityMap.loadGuards = ["char_data.get('value') is not None", "linked_service"] ∧
    Gen.EntityMap.serviceSerGuards = ["(linked := [service.iid for service in self.linked])"] ∧
    Gen.EntityMap.serviceIid = ["iid or accessory.get_next_id()"] := ⟨rfl, rfl, rfl, rfl⟩

/-! ## The write-through characteristic cache -/

/-- **A restart of the file-backed cache sees exactly the entries in memory**, after any history of
    `async_create_or_update_map` / `async_delete_map` (at least one, so that the file exists). -/
theorem C20_cache_write_through {A} (c : FileCache A) (ops : List (CacheOp A)) (h : ops ≠ []) :
    (ops.foldl FileCache.step c).restart.mem = (ops.foldl FileCache.step c).mem := by
  -- the last operation wrote the file
  obtain ⟨init, last, rfl⟩ := (List.eq_nil_or_concat ops).resolve_left h
  rw [List.concat_eq_append, List.foldl_append, List.foldl_cons, List.foldl_nil, FileCache.restart, step_file]
  rfl

/-- the write-through invariant `file = mem` is kept by every further operation and by restarts -/
theorem C20_cache_invariant {A} (c : FileCache A) (h : c.file = some c.mem) (op : CacheOp A) :
    (c.step op).file = some (c.step op).mem ∧ c.restart.mem = c.mem := by
  simp [FileCache.step, FileCache.restart, h]

/-- an absent, truncated or unparsable cache file is a cold cache - start-up does not fail -/
theorem C20_cache_corrupt_is_empty {A} (mem : CacheMap A) :
    (FileCache.restart ⟨mem, none⟩).mem = [] := rfl

/-- the entry stored last for an id is the one found - config number, state number, broadcast key and the
    accessory database as given - and a deleted id is gone; other ids are not disturbed -/
theorem C20_cache_get_put {A} (m : CacheMap A) (k : String) (e : Entry A) :
    CacheMap.get (applyOp m (.put k e)) k = some e := by
  simp [applyOp, CacheMap.get]

theorem C20_cache_get_del {A} (m : CacheMap A) (k : String) :
    CacheMap.get (applyOp m (.del k)) k = none := by
  simp [applyOp, CacheMap.get]

theorem C20_cache_get_other {A} (m : CacheMap A) (k k' : String) (op : CacheOp A) (hk : k' ≠ k)
    (hop : op = .del k ∨ ∃ e, op = .put k e) :
    CacheMap.get (applyOp m op) k' = CacheMap.get m k' := by
  have hf : (m.filter (·.1 != k)).find? (·.1 == k') = m.find? (·.1 == k') := by
    rw [List.find?_filter]
    congr 1
    funext a
    by_cases ha : a.1 = k' <;> simp [ha, hk]
  rcases hop with rfl | ⟨e, rfl⟩
  · simp only [applyOp, CacheMap.get, hf]
  · simp only [applyOp, CacheMap.get, List.find?_cons, hf]
    rw [show ((k, e).1 == k') = false by simpa using Ne.symm hk]

end HapVerif.C20
