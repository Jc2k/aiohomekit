import HapVerif.Model.Broadcast
import HapVerif.Gen.Misc
import HapVerif.Proofs.Bytes

/-! # C18 - BLE broadcast notifications are accepted only if authentic and fresh -/

namespace HapVerif.C18
open HapVerif HapVerif.Broadcast

theorem mem_candidates (s g : Nat) : g ∈ candidates s ↔ s ≤ g ∧ g < s + 100 := by
  simp only [candidates, List.mem_append, List.mem_cons, List.mem_range'_1, List.mem_nil_iff, or_false]
  omega

theorem step_spec (s : St) (a : Adv) :
    (∃ g iid v, a = .genuine s.advId g g iid v ∧ s.stateNum < g ∧ g < s.stateNum + 100 ∧
      step s a = ({ s with stateNum := g }, .delivered iid v)) ∨
    ((step s a).1 = s ∧ ∀ iid v, (step s a).2 ≠ .delivered iid v) := by
  fun_cases step s a
  -- another accessory's identifier
  next => exact .inr ⟨rfl, nofun⟩
  -- no broadcast key
  next => exact .inr ⟨rfl, nofun⟩
  -- foreign
  next => exact .inr ⟨rfl, nofun⟩
  -- short
  next => exact .inr ⟨rfl, nofun⟩
  -- genuine, stale state number
  next => exact .inr ⟨rfl, nofun⟩
  -- genuine, inner counter differs
  next => exact .inr ⟨rfl, nofun⟩
  -- genuine, accepted
  next _ ad g inner iid v hcand hstale hinner hid =>
    obtain ⟨hle, hlt⟩ := (mem_candidates ..).mp hcand
    cases Decidable.of_not_not hinner
    cases (Decidable.of_not_not hid : ad = s.advId)
    exact .inl ⟨g, iid, v, rfl, Nat.lt_of_le_of_ne hle (Ne.symm hstale), hlt, rfl⟩
  -- genuine, outside the candidates
  next => exact .inr ⟨rfl, nofun⟩

/-- **Accepted ⇒ authentic and fresh**: a value reaches listeners only for a genuine sealing under
    this pairing's key and advertising identifier whose nonce counter `g` is strictly newer than
    the last accepted state number (and within the window), and whose inner counter equals the
    nonce counter; it is delivered under the characteristic id inside it, and the state number
    becomes `g`. -/
theorem C18_accept_implies_authentic_fresh (s : St) (a : Adv) (iid : Nat) (value : Bytes)
    (h : (step s a).2 = .delivered iid value) :
    ∃ g, a = .genuine s.advId g g iid value ∧ s.stateNum < g ∧ g < s.stateNum + 100 ∧ (step s a).1.stateNum = g ∧
      (step s a).1.advId = s.advId := by
  obtain ⟨g, i, v, rfl, h1, h2, hs⟩ | ⟨_, hn⟩ := step_spec s a
  · rw [hs] at h ⊢
    cases h
    exact ⟨g, rfl, h1, h2, rfl, rfl⟩
  · exact absurd h (hn iid value)

/-- **Rejected ⇒ nothing changes**: whenever nothing is delivered the pairing's state is exactly
    what it was (stale, older, beyond the window, wrong key, wrong identifier, altered bytes, inner
    counter ≠ nonce counter). -/
theorem C18_rejected_unchanged (s : St) (a : Adv) (h : ∀ iid value, (step s a).2 ≠ .delivered iid value) :
    (step s a).1 = s := by
  obtain ⟨g, i, v, _, _, _, hs⟩ | ⟨hr, _⟩ := step_spec s a
  · exact absurd (congrArg Prod.snd hs) (h i v)
  · exact hr

theorem step_mono (s : St) (a : Adv) : s.stateNum ≤ (step s a).1.stateNum := by
  obtain ⟨g, i, v, _, h1, _, hs⟩ | ⟨hr, _⟩ := step_spec s a
  · rw [hs]
    exact Nat.le_of_lt h1
  · rw [hr]
    exact Nat.le_refl _

theorem finalState_mono (as : List Adv) (s : St) : s.stateNum ≤ (finalState s as).stateNum := by
  induction as generalizing s with
  | nil => exact Nat.le_refl _
  | cons a as ih => exact Nat.le_trans (step_mono s a) (ih (step s a).1)

theorem delivered_window {s : St} {ad g inner iid : Nat} {v : Bytes} {i : Nat} {w : Bytes}
    (h : (step s (.genuine ad g inner iid v)).2 = .delivered i w) : s.stateNum < g ∧ g < s.stateNum + 100 := by
  obtain ⟨g', ha, h1, h2, _, _⟩ := C18_accept_implies_authentic_fresh s _ i w h
  cases ha
  exact ⟨h1, h2⟩

/-- **No replay, over whole histories**: a notification that was accepted is rejected whenever it
    is presented again, after any number of other advertisements in between. -/
theorem C18_no_replay (s : St) (a : Adv) (between : List Adv) (iid : Nat) (value : Bytes)
    (h : (step s a).2 = .delivered iid value) :
    ∀ iid' value', (step (finalState (step s a).1 between) a).2 ≠ .delivered iid' value' := by
  intro iid' value' h2
  have hm := finalState_mono between (step s a).1
  obtain ⟨g, rfl, _, _, hst, _⟩ := C18_accept_implies_authentic_fresh s a iid value h
  rw [hst] at hm
  exact Nat.lt_irrefl _ (Nat.lt_of_lt_of_le (delivered_window h2).1 hm)

/-- stale (current) and older state numbers are ignored even when authentic -/
theorem C18_stale_ignored (s : St) (ad g inner iid : Nat) (v : Bytes) (h : g ≤ s.stateNum) :
    ∀ i w, (step s (.genuine ad g inner iid v)).2 ≠ .delivered i w :=
  fun _ _ hd => Nat.lt_irrefl _ (Nat.lt_of_lt_of_le (delivered_window hd).1 h)

/-- and so is anything 100 or more ahead -/
theorem C18_beyond_window_ignored (s : St) (ad g inner iid : Nat) (v : Bytes) (h : s.stateNum + 100 ≤ g) :
    ∀ i w, (step s (.genuine ad g inner iid v)).2 ≠ .delivered i w :=
  fun _ _ hd => Nat.lt_irrefl _ (Nat.lt_of_lt_of_le (delivered_window hd).2 h)

/-- an accepted notification for an instance id the cached database does not know calls nobody - and everything
    else is observed as it is; since the state number advanced (the step itself is the same), the replay
    protection of `C18_no_replay` covers it too -/
theorem C18_unknown_iid_silent (unknown : List Nat) (o : Out) :
    (∀ iid value, observe unknown o = .delivered iid value → o = .delivered iid value ∧ iid ∉ unknown) ∧
    (∀ iid value, o = .delivered iid value → iid ∈ unknown → observe unknown o = .silent) ∧
    ((∀ iid value, o ≠ .delivered iid value) → observe unknown o = o) := by
  refine ⟨fun iid value h => ?_, fun iid value h hm => by subst h; exact if_pos hm, fun h => ?_⟩
  · cases o with
    | delivered i v =>
      simp only [observe] at h
      split at h <;> cases h
      exact ⟨rfl, ‹_›⟩
    | _ => cases h
  · cases o with
    | delivered i v => exact absurd rfl (h i v)
    | _ => rfl

example : run ⟨7, 10, true⟩ [.genuine 7 11 11 5 [1], .genuine 7 11 11 5 [1], .genuine 7 16 16 5 [2], .genuine 7 12 12 5 [3],
    .genuine 7 16 16 5 [2], .genuine 7 116 116 5 [4], .genuine 7 115 115 5 [4], .foreign 7, .genuine 7 117 118 5 [9], .genuine 8 116 116 5 [1]]
    = [.delivered 5 [1], .ignored, .delivered 5 [2], .fallback, .ignored, .fallback, .delivered 5 [4], .fallback, .ignored, .notRouted] := by
  decide +kernel

theorem decode_padded (k n pad : Nat) (h : n < 256 ^ k) :
    Val.n (leToNat ((natToLe k n ++ List.replicate pad 0).take k)) = .n n := by
  rw [List.take_left' (natToLe_length k n), natToLe_val k n h]

/-- **Value decoding**: an unsigned value of width `k` that the accessory wrote little-endian into
    the 8-byte value field (zero padded) is delivered as that number -/
theorem C18_value_decoding_uint (n : Nat) :
    (n < 256 → decodeValue .uint8 (natToLe 1 n ++ List.replicate 7 0) = .n n) ∧
    (n < 256 ^ 2 → decodeValue .uint16 (natToLe 2 n ++ List.replicate 6 0) = .n n) ∧
    (n < 256 ^ 4 → decodeValue .uint32 (natToLe 4 n ++ List.replicate 4 0) = .n n) ∧
    (n < 256 ^ 8 → decodeValue .uint64 (natToLe 8 n ++ List.replicate 0 0) = .n n) :=
  ⟨fun h => decode_padded 1 n 7 (by rwa [Nat.pow_one]), decode_padded 2 n 6, decode_padded 4 n 4, decode_padded 8 n 0⟩

/-- the candidate state numbers the generated table describes, relative to the last accepted one -/
def candByTable (t : List (String × Nat × Nat)) (s : Nat) : List Nat :=
  t.flatMap (fun r => if r.1 = "at" then [s + r.2.1] else if r.1 = "range" then List.range' (s + r.2.1) (r.2.2 - r.2.1) else [])

/-- tie to the source (regenerated on every run from `_async_notification`): for every last accepted state number
    the model tries exactly the candidates the source lists, in the source's order (next, current, then +2 .. +99),
    and the wrap-around bound is the source's `MAX_GSN` -/
theorem C18_gen_tie (s : Nat) :
    candidates s = candByTable Gen.Misc.gsnCandidates s ∧ Gen.Misc.maxGsn = 65535 :=
  ⟨by simp [candidates, candByTable, Gen.Misc.gsnCandidates], rfl⟩

end HapVerif.C18
