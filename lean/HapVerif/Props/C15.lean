import HapVerif.Proofs.Tlv
import HapVerif.Gen.Tlv

/-! # C15 - pairing TLV encoding round-trips and is the canonical TLV8 wire format

`Tlv.encodeList` / `Tlv.decode` / `Tlv.reassemble` (tied to `protocol/tlv.py` and `_pairing_char_write` of
`controller/ble/client.py`) against the TLV8 format of `Spec.Tlv8`. -/

namespace HapVerif.C15
open HapVerif.Tlv HapVerif.Spec.Tlv8

/-- Canonical form: the output is the concatenation of the canonical wire forms of the items
    (maximal 255-byte fragments, last fragment non-empty, `t 00` for an empty value) ... -/
theorem C15_canonical (l : Items) : Canonical l (encodeList l) :=
  canonical_encodeList l

/-- ... and the canonical form is unique, so the encoder's bytes are exactly a conformant
    writer's bytes. -/
theorem C15_canonical_unique (l : Items) (o : Bytes) (h : Canonical l o) : o = encodeList l := by
  induction h with
  | nil => rfl
  | cons t v o rest os hf _ ih =>
    rw [encodeList_cons, ih, frags_unique t hf (encItem_frags t v)]

/-- The decoder accepts what a conformant peer writes. -/
theorem C15_accepts_peer (l : Items) (o : Bytes) (hwf : WF l) (h : Canonical l o) :
    decode none o = .ok l :=
  (decode_canonical none h fun _ _ => rfl).trans (congrArg Except.ok (merge_of_wf hwf))

/-- Round trip: every well-formed item list (separators carry no data, equal-typed neighbours are
    kept apart), values of any length including zero. -/
theorem C15_roundtrip (l : Items) (h : WF l) : decode none (encodeList l) = .ok l :=
  decode_encodeList l h

example : WF [(1, [3, 4]), (255, []), (1, [9]), (7, []), (3, List.replicate 600 5)] := by
  simp [WF]

/-- The encoder accepts exactly the lists whose separators carry no data. -/
theorem C15_encode_total (l : Items) (h : WF l) : encodeList? l = .ok (encodeList l) := by
  refine if_neg fun hany => ?_
  induction l with
  | nil => exact Bool.false_ne_true hany
  | cons kv l ih =>
    rw [List.any_cons, Bool.or_eq_true] at hany
    rcases hany with hkv | hl
    · exact (of_decide_eq_true hkv).2 (h.1 (of_decide_eq_true hkv).1)
    · exact ih h.2.2 hl

/-- Decoding arbitrary bytes, with or without a filter, returns items or raises the codec's own
    parse error - no other outcome exists. -/
theorem C15_decode_total (ex : Option (List UInt8)) (bs : Bytes) :
    (∃ items, decode ex bs = .ok items) ∨ decode ex bs = .error .parse := by
  rw [decode_eq]
  fun_induction dec ex bs [] false
  next => exact Or.inl ⟨_, rfl⟩ -- no input
  next => exact Or.inl ⟨_, rfl⟩ -- skipped, no length
  next => exact Or.inr rfl -- no length
  next ih => exact ih -- skipped
  next => exact Or.inr rfl -- short value
  next ih => exact ih -- item

/-- A successful decode never returns a value shorter than declared: the input is exactly a
    sequence of complete wire items and the result is what a conformant reader makes of them. -/
theorem C15_no_short_value (bs : Bytes) (items : Items) (h : decode none bs = .ok items) :
    ∃ raw, bs = rawEncode raw ∧ (∀ r ∈ raw, r.2.length ≤ 255) ∧ items = merge raw := by
  rcases dec_raw bs [] false with ⟨raw, rfl, hall⟩ | herr
  · have hd := decode_canonical none (canonical_rawEncode raw hall) fun _ _ => rfl
    exact ⟨raw, rfl, hall, Except.ok.inj (h.symm.trans hd)⟩
  · rw [decode_eq, herr] at h
    cases h

/-- **The `expected` filter, part 1**: a reply made only of expected types is decoded exactly as
    without a filter - to the conformant reading of its items. -/
theorem C15_expected_filter_allows (ex : Option (List UInt8)) (raw : List (UInt8 × Bytes))
    (hall : ∀ r ∈ raw, r.2.length ≤ 255 ∧ filtered ex r.1 = false) :
    decode ex (rawEncode raw) = .ok (merge raw) :=
  decode_canonical ex (canonical_rawEncode raw fun r hr => (hall r hr).1) fun r hr => (hall r hr).2

/-- **The `expected` filter, part 2**: an item of a type that is not expected is skipped - whatever
    follows it (an Error item, say) is still decoded. -/
theorem C15_expected_filter_skips (ex : Option (List UInt8)) (t : UInt8) (v rest : Bytes)
    (hv : v.length ≤ 255) (ht : filtered ex t = true) :
    decode ex (t :: UInt8.ofNat v.length :: (v ++ rest)) = decode ex rest :=
  decode_skip_frags ex (.last v hv) ht rest

example : decode (some [6, 7]) [6, 1, 4, 8, 1, 5, 7, 1, 3] = .ok [(6, [4]), (7, [3])] := by decide +kernel

/-- An accessory that cuts a pairing reply `payload` into any number (< 50) of FragmentData pieces
    of any sizes, followed by a FragmentLast piece, makes the controller return exactly the
    decoding of `payload`; every piece is consumed once. -/
theorem C15_ble_reassembly (pieces : List Bytes) (last : Bytes) (buffer : Bytes) (fuel n : Nat)
    (hfuel : pieces.length < fuel) :
    reassemble fuel (pieces.map (fun p => encodeList [(12, p)]) ++ [encodeList [(13, last)]]) buffer n
      = (match decode none (buffer ++ pieces.flatten ++ last) with
         | .ok items => .done items
         | .error e => .err e, n + pieces.length + 1) := by
  induction pieces generalizing buffer fuel n with
  | nil =>
    cases fuel with
    | zero => exact absurd hfuel (Nat.not_lt_zero _)
    | succ fuel =>
      rw [List.map_nil, List.nil_append, reassemble_last, List.flatten_nil, List.append_nil]
      rfl
  | cons p ps ih =>
    cases fuel with
    | zero => exact absurd hfuel (Nat.not_lt_zero _)
    | succ fuel =>
      rw [List.map_cons, List.cons_append, reassemble_data, ih (buffer ++ p) fuel (n + 1) (Nat.lt_of_succ_lt_succ hfuel),
        List.flatten_cons, List.append_assoc buffer, List.length_cons, Nat.add_assoc n 1, Nat.add_comm 1]

example : reassemble 50 ([[1, 2], [3]].map (fun p => encodeList [(12, p)]) ++ [encodeList [(13, [9])]]) [] 0
    = (.done [(1, [3, 9])], 3) := by decide +kernel

/-- tie to the source constants the model hard-codes (regenerated from `protocol/tlv.py` and
    `ble/client.py` on every run) -/
theorem C15_gen_tie : Gen.Tlv.kTLVType_Separator = 255 ∧ Gen.Tlv.kTLVType_FragmentData = 12 ∧
    Gen.Tlv.kTLVType_FragmentLast = 13 ∧ Gen.Tlv.MAX_REASSEMBLY = 50 :=
  ⟨rfl, rfl, rfl, rfl⟩

end HapVerif.C15
