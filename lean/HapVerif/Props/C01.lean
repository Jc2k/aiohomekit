import HapVerif.Proofs.PairVerify
import HapVerif.Proofs.CryptoIdeal
import HapVerif.Gen.Protocol
import HapVerif.Gen.Install
import HapVerif.Proofs.Reconnect
import HapVerif.Model.BleSession

/-! # C01 - pair-verify yields session keys only for the authentic paired accessory

Security assumptions (Ed25519 unforgeability, AEAD integrity) are never theorems here; what is proved is the logic the
library answers for, over any crypto or from the interface laws `Crypto.Laws` alone. -/

namespace HapVerif.C01
open HapVerif HapVerif.Tlv HapVerif.Protocol HapVerif.PairVerify

/-- **Acceptance implies the checks** (any crypto): if M2 is accepted then the box opened under
    the key derived from this exchange's ephemeral secret and the presented key, the identifier
    inside is the stored one, and the stored long-term key verifies the signature over
    `accPK ‖ id ‖ iosPK`, with `iosPK` this exchange's own fresh public key. -/
theorem C01_accept_implies_checks (C : Crypto) (p : Pairing) (eph : Bytes) (m2 : Items) (v : Verified)
    (h : processM2 C p eph m2 = .ok v) :
    ∃ enc plain d1,
      lookup 3 m2 = some v.accPk ∧ lookup 5 m2 = some enc ∧ v.accPk.length = 32 ∧
      v.shared = C.dh eph v.accPk ∧
      C.aeadOpen (C.hkdf (C.dh eph v.accPk) (str "Pair-Verify-Encrypt-Salt") (str "Pair-Verify-Encrypt-Info") 32)
        (PairVerify.noncePad ++ str "PV-Msg02") [] enc = some plain ∧
      decode none plain = .ok d1 ∧ lookup 1 d1 = some p.accessoryId ∧ lookup 10 d1 = some v.sig ∧
      C.edVerify p.accessoryLTPK (v.accPk ++ p.accessoryId ++ C.dhPub eph) v.sig = true := by
  obtain ⟨enc, plain, d1, h⟩ := (processM2_ok_iff ..).mp h
  exact ⟨enc, plain, d1, h.pk, h.box, h.pkLen, h.shared, h.opened, h.decoded, h.ident, h.signature, h.verified⟩

/-- a failed exchange yields no key material: keys exist only inside `ok` -/
theorem C01_failure_yields_no_keys (C : Crypto) (p : Pairing) (eph : Bytes) (m2 m4 : Items) (e : VErr)
    (h : run C p eph m2 m4 = .error e) : ∀ r, run C p eph m2 m4 ≠ .ok r :=
  fun _ hr => nomatch h.symm.trans hr

/-- keys are produced only if both M2 and M4 were accepted -/
theorem C01_keys_imply_both_steps (C : Crypto) (p : Pairing) (eph : Bytes) (m2 m4 : Items) (r : Items × Keys)
    (h : run C p eph m2 m4 = .ok r) :
    ∃ v, processM2 C p eph m2 = .ok v ∧ processM4 m4 = .ok () ∧ r = (v.m3, keysOf C v.shared) :=
  (run_ok_iff ..).mp h

open Spec.VerifyAccessory in
/-- the pairing record and the accessory belong together -/
structure Paired (C : Crypto) (p : Pairing) (A : Acc) : Prop where
  id : p.accessoryId = A.id
  ltpk : p.accessoryLTPK = C.edPub A.ltsk
  iosId : A.iosId = p.iosId
  iosLTPK : A.iosLTPK = C.edPub p.iosLTSK

open Spec.VerifyAccessory in
/-- **Honest run**: against a specification-conformant accessory holding the stored long-term key,
    for every pairing record, every pair of ephemeral secrets (with a non-degenerate shared
    secret) the controller accepts M2, the accessory accepts the controller's M3, and after M4
    both ends hold identical write, read and event keys. -/
theorem C01_honest_agree (C : Crypto) (L : C.Laws) (p : Pairing) (A : Acc) (hp : Paired C p A) (eph accSk : Bytes)
    (hid : asciiOnly A.id = true) (hnz : (C.dh eph (C.dhPub accSk)).all (· = 0) = false) :
    ∃ m3 k, run C p eph (m2 C A accSk (C.dhPub eph)) [(6, [4])] = .ok (m3, k) ∧
      acceptsM3 C A accSk (C.dhPub eph) m3 = true ∧
      k.c2a = (keys C accSk (C.dhPub eph)).2.1 ∧ k.a2c = (keys C accSk (C.dhPub eph)).1 ∧
      k.event = (keys C accSk (C.dhPub eph)).2.2 := by
  refine ⟨_, _, (run_ok_iff ..).mpr ⟨_, processM2_specM2 L eph accSk hp.id hp.ltpk hid hnz, rfl, rfl⟩,
    acceptsM3_m3Of L eph accSk hp.iosId hp.iosLTPK, ?_⟩
  simp only [keysOf, keys, L.dh_comm eph accSk, and_self]

/-- non-vacuity: the laws are satisfiable -/
example : Crypto.Laws Ideal.ideal := Ideal.ideal_laws

open Spec.VerifyAccessory in
/-- **Replay from another exchange is rejected** (from the interface laws alone): an M2 that the
    genuine accessory produced for a *different* controller ephemeral key `iosPk'` is never
    accepted in this exchange - the signature it carries is bound to the other key. -/
theorem C01_replay_rejected (C : Crypto) (L : C.Laws) (p : Pairing) (A : Acc) (hp : Paired C p A) (eph accSk iosPk' : Bytes)
    (hne : iosPk' ≠ C.dhPub eph) (hlen : iosPk'.length = 32) :
    ∀ v, processM2 C p eph (m2 C A accSk iosPk') ≠ .ok v := by
  intro v hv
  have hver := (of_processM2_specM2 L hv).2
  rw [hp.ltpk] at hver
  have hmsg := L.sign_inj _ _ _ (L.verify_sound _ _ _ hver)
  rw [List.append_assoc, List.append_assoc] at hmsg
  exact hne (List.append_cancel_left (List.append_cancel_left hmsg))

open Spec.VerifyAccessory in
/-- **Signed by another key / bound to another identifier is rejected**: an M2 that is well formed
    in every respect but signed with a long-term key whose public key is not the stored one, or
    carrying another identifier, is never accepted (verify-soundness of the stored key applies to
    *its* secret key only; here: a different identifier fails the comparison, whatever the
    signature). -/
theorem C01_wrong_identifier_rejected (C : Crypto) (L : C.Laws) (p : Pairing) (A : Acc) (eph accSk : Bytes)
    (hid : A.id ≠ p.accessoryId) :
    ∀ v, processM2 C p eph (m2 C A accSk (C.dhPub eph)) ≠ .ok v :=
  fun _ hv => hid (of_processM2_specM2 L hv).1

/-- **Resumption**: a resumed session is accepted only if the reply's tag opens under the key
    derived from the *previous* session's secret and this exchange's fresh public key, to the
    empty plaintext; the new secret is derived from the same inputs. -/
theorem C01_resume_accept_implies_secret (C : Crypto) (prevShared eph : Bytes) (m2 : Items) (sid shared' : Bytes)
    (h : resumeM3 C prevShared eph m2 = some (sid, shared')) :
    lookup 14 m2 = some sid ∧
    (∃ tag, lookup 5 m2 = some tag ∧
      C.aeadOpen (C.hkdf prevShared (C.dhPub eph ++ sid) (str "Pair-Resume-Response-Info") 32)
        (PairVerify.noncePad ++ str "PR-Msg02") [] tag = some []) ∧
    shared' = C.hkdf prevShared (C.dhPub eph ++ sid) (str "Pair-Resume-Shared-Secret-Info") 32 := by
  obtain ⟨method, tag, h⟩ := (resumeM3_eq_some_iff ..).mp h
  exact ⟨h.hasSession, ⟨tag, h.hasTag, h.opened⟩, h.shared⟩

/-- on the resume path too the state/error check comes first: a resumed session is accepted only for a reply
    whose state is M2 and that carries no error - and then only under the conditions of the previous theorem -/
theorem C01_resume_requires_clean_reply (C : Crypto) (prevShared eph : Bytes) (m2 : Items) (r : Bytes × Bytes)
    (h : verifyM2Resume C prevShared eph m2 = .ok (some r)) :
    handleStateStep m2 [2] = .ok () ∧ resumeM3 C prevShared eph m2 = some r :=
  (verifyM2Resume_ok_iff ..).mp h

/-- tie to the labels and nonces in the source (regenerated on every run): the model's literals are
    exactly those of `get_session_keys`, `resume_m1`, `resume_m3`, in source order -/
theorem C01_gen_tie :
    Gen.Protocol.labels_get_session_keys = [["Pair-Verify-Encrypt-Salt", "Pair-Verify-Encrypt-Info"], [],
      ["Pair-Verify-ResumeSessionID-Salt", "Pair-Verify-ResumeSessionID-Info", "8"]] ∧
    Gen.Protocol.nonces_get_session_keys = ["PV-Msg02", "PV-Msg03"] ∧
    Gen.Protocol.labels_resume_m1 = [["Pair-Resume-Request-Info"]] ∧ Gen.Protocol.nonces_resume_m1 = ["PR-Msg01"] ∧
    Gen.Protocol.labels_resume_m3 = [["Pair-Resume-Response-Info"], ["Pair-Resume-Shared-Secret-Info"], []] ∧
    Gen.Protocol.nonces_resume_m3 = ["PR-Msg02"] := ⟨rfl, rfl, rfl, rfl, rfl, rfl⟩

/-- the three install sites give the controller's *write* cipher the "Control-Write" key and its
    *read* cipher the "Control-Read" key (and, on CoAP, the event cipher the "Event-Read" key);
    on IP the positional constructor arguments line up with the parameters -/
theorem C01_install_sites :
    Gen.Install.ip = [("c2a_key", ["Control-Salt", "Control-Write-Encryption-Key"]), ("a2c_key", ["Control-Salt", "Control-Read-Encryption-Key"])] ∧
    Gen.Install.ipCtorArgs.drop 1 = Gen.Install.ipCtorParams.drop 2 ∧
    Gen.Install.ipCipherKeys = ["self.c2a_key", "self.a2c_key"] ∧
    Gen.Install.coap = [("recv_key", ["Control-Salt", "Control-Read-Encryption-Key"]), ("send_key", ["Control-Salt", "Control-Write-Encryption-Key"]),
      ("event_key", ["Event-Salt", "Event-Read-Encryption-Key"])] ∧
    Gen.Install.coapCtxArgs = ["recv_ctx", "send_ctx", "event_ctx"] ∧
    Gen.Install.ble = [("EncryptionKey", ["Control-Salt", "Control-Write-Encryption-Key"]), ("DecryptionKey", ["Control-Salt", "Control-Read-Encryption-Key"])] :=
  ⟨rfl, rfl, rfl, rfl, rfl, rfl⟩

/-! ## No session before the proof (the IP connection supervisor, model of `Reconnect.lean`)

`_connect_once` clears `is_secure` before it opens the TCP connection, so a flag left over from the previous session
cannot let the request entry points (all gated by `is_connected`) write to a peer that has proved nothing yet. -/

open HapVerif.Reconnect in
/-- **In every reachable state of the supervisor, while the TCP connect or the pair-verify of an attempt is
    pending the pairing is not connected** - whatever happened before (an earlier verified session lost by a peer
    drop, a close, failed attempts, zeroconf updates, callers asking for the connection at any time). -/
theorem C01_no_session_before_proof (hosts : List Host) (evs : List Ev) :
    (∀ t r, (run (init hosts) evs).conn = .tcpWait t r → (run (init hosts) evs).isConnected = false) ∧
    (∀ t c, (run (init hosts) evs).conn = .verifyWait t c → (run (init hosts) evs).isConnected = false) :=
  ⟨fun _ _ hc => ((run_sup hosts evs).live (hc ▸ rfl)).notConnected,
   fun _ _ hc => ((run_sup hosts evs).live (hc ▸ rfl)).notConnected⟩

open HapVerif.Reconnect in
/-- non-vacuity: after a drop, while the next pair-verify is pending, the pairing is not connected -/
example :
    let s1 := run (init [1]) [.pushVer .ok, .pushTcp (.ok 0), .ensure 1 none]
    let s2 := run s1 [.pushVer .hang, .pushTcp (.ok 0), .drop 0]
    s1.isConnected = true ∧ s2.conn = .verifyWait 245760 1 ∧ s2.current = some 1 ∧ s2.isConnected = false := by
  decide +kernel

/-! ## BLE: session keys never outlive the link they were negotiated on -/

structure BleInv (s : BleSession.St) : Prop where
  keysLink : ∀ k, s.keys = some k → s.link = some k
  keysVerified : ∀ k, s.keys = some k → k ∈ s.verifies
  trafficOwn : ∀ p ∈ s.traffic, p.1 = p.2
  trafficVerified : ∀ p ∈ s.traffic, p.2 ∈ s.verifies

theorem ble_step_inv (s : BleSession.St) (e : BleSession.Ev) (h : BleInv s) : BleInv (BleSession.step s e) := by
  have drop : BleInv { s with link := none, keys := none } := ⟨nofun, nofun, h.trafficOwn, h.trafficVerified⟩
  fun_cases BleSession.step s e
  next => exact h                     -- connect, linked
  next hl =>                          -- connect: no link, hence no keys
    exact ⟨(fun k hk => nomatch hl ▸ h.keysLink k hk), h.keysVerified, h.trafficOwn, h.trafficVerified⟩
  next l _ hl =>                      -- verifyOk: keys of the current link, which joins `verifies`
    exact ⟨fun _ hk => hk ▸ hl, fun _ hk => Option.some.inj hk ▸ List.mem_append_right _ (List.mem_singleton_self _), h.trafficOwn,
      fun p hp => List.mem_append_left _ (h.trafficVerified p hp)⟩
  next => exact h                     -- verifyOk, not run
  next =>                             -- verifyFail: only `verifies` grows
    exact ⟨h.keysLink, fun k hk => List.mem_append_left _ (h.keysVerified k hk), h.trafficOwn,
      fun p hp => List.mem_append_left _ (h.trafficVerified p hp)⟩
  next => exact h                     -- verifyFail, not run
  next l k hk hl =>                   -- request: the keys present are those of its link
    have hlk : l = k := Option.some.inj (hl.symm.trans (h.keysLink k hk))
    exact ⟨h.keysLink, h.keysVerified, List.forall_mem_append.mpr ⟨h.trafficOwn, List.forall_mem_singleton.mpr hlk⟩,
      List.forall_mem_append.mpr ⟨h.trafficVerified, List.forall_mem_singleton.mpr (h.keysVerified k hk)⟩⟩
  next => exact h                     -- request, not sent
  next => exact drop                  -- closeOk
  next => exact h                     -- closeOk, no link
  next => exact drop                  -- closeRaises
  next => exact h                     -- closeRaises, no link
  next => exact drop                  -- lost

theorem ble_inv (evs : List BleSession.Ev) : BleInv (BleSession.run {} evs) :=
  List.foldlRecOn evs BleSession.step ⟨nofun, nofun, nofun, nofun⟩ fun s hs e _ => ble_step_inv s e hs

open HapVerif.BleSession in
/-- **On BLE every encrypted request goes out on the link on which its session keys were negotiated**, in every
    history of connects, pair-verify outcomes, requests, closes (clean or with a raising disconnect) and link
    losses: a new link never inherits the previous link's keys, so its peer has to prove itself again. -/
theorem C01_ble_keys_bound_to_link (evs : List BleSession.Ev) :
    (∀ p ∈ (BleSession.run {} evs).traffic, p.1 = p.2) ∧
    (∀ k, (BleSession.run {} evs).keys = some k → (BleSession.run {} evs).link = some k) :=
  ⟨(ble_inv evs).trafficOwn, (ble_inv evs).keysLink⟩

open HapVerif.BleSession in
/-- **No encrypted request ever goes out on a link on which no pair-verify (or pair-resume) was run**: whatever the
    history, every request's link appears among the links a pair-verify attempt was made on - and that attempt
    succeeded, since a failed one leaves no keys (`C01_ble_failed_verify_no_traffic`). -/
theorem C01_ble_traffic_only_after_verify (evs : List BleSession.Ev) :
    ∀ p ∈ (BleSession.run {} evs).traffic, p.1 ∈ (BleSession.run {} evs).verifies :=
  fun p hp => (ble_inv evs).trafficOwn p hp ▸ (ble_inv evs).trafficVerified p hp

open HapVerif.BleSession in
/-- a public operation against a peer that cannot complete pair-verify sends nothing, in whatever state it starts:
    the traffic is unchanged (so an impostor never sees a request of the session), and there are no keys afterwards -/
theorem C01_ble_failed_verify_no_traffic (evs : List BleSession.Ev) (hk : (BleSession.run {} evs).keys = none) :
    (BleSession.op (BleSession.run {} evs) false).traffic = (BleSession.run {} evs).traffic ∧
    (BleSession.op (BleSession.run {} evs) false).keys = none := by
  generalize BleSession.run {} evs = s at hk
  unfold BleSession.op
  cases hl : s.link <;> simp [BleSession.step, hl, hk]

open HapVerif.BleSession in
/-- non-vacuity: after a raising disconnect link 1 has no keys; a failing pair-verify sends no request -/
example :
    (BleSession.run {} [.connect, .verifyOk, .request, .closeRaises, .connect, .verifyFail, .request]).traffic = [(0, 0)] ∧
    (BleSession.run {} [.connect, .verifyOk, .request, .closeRaises, .connect]).keys = none ∧
    (BleSession.run {} [.connect, .verifyOk, .request, .closeRaises, .connect]).link = some 1 := by decide

end HapVerif.C01
