/-! Shared byte-string vocabulary of all models (core Lean only, so the driver links). -/

abbrev Bytes := List UInt8

deriving instance DecidableEq for Except

namespace HapVerif

def hexDigit (n : Nat) : Char :=
  if n < 10 then Char.ofNat (48 + n) else Char.ofNat (87 + n)

/-- lower-case hex; the empty string is written `-` so that it survives `splitOn " "`. -/
def toHex (b : Bytes) : String :=
  if b.isEmpty then "-"
  else String.ofList (b.flatMap fun c => [hexDigit (c.toNat / 16), hexDigit (c.toNat % 16)])

def hexVal (c : Char) : Nat :=
  if c.isDigit then c.toNat - 48 else if c.toNat ≥ 97 then c.toNat - 87 else c.toNat - 55

def ofHexChars : List Char → Bytes
  | a :: b :: t => UInt8.ofNat (hexVal a * 16 + hexVal b) :: ofHexChars t
  | _ => []

def ofHex (s : String) : Bytes := if s = "-" then [] else ofHexChars s.toList

/-- little-endian reading of a byte string -/
def leToNat (b : Bytes) : Nat := b.foldr (fun x acc => x.toNat + 256 * acc) 0
/-- big-endian reading of a byte string -/
def beToNat (b : Bytes) : Nat := b.foldl (fun acc x => acc * 256 + x.toNat) 0

/-- `k` little-endian bytes of `n` (truncating, like `struct.pack` would refuse - callers guard) -/
def natToLe : Nat → Nat → Bytes
  | 0, _ => []
  | k+1, n => UInt8.ofNat (n % 256) :: natToLe k (n / 256)

def natToBe (k n : Nat) : Bytes := (natToLe k n).reverse

def str (s : String) : Bytes := s.toUTF8.toList

end HapVerif
