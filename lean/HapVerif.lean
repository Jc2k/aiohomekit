import HapVerif.Bytes
import HapVerif.Gen.BleMeta
import HapVerif.Gen.BleReassembly
import HapVerif.Gen.CoapEvent
import HapVerif.Gen.EntityMap
import HapVerif.Gen.Install
import HapVerif.Gen.Ip
import HapVerif.Gen.Misc
import HapVerif.Gen.Pdu
import HapVerif.Gen.Protocol
import HapVerif.Gen.Reconnect
import HapVerif.Gen.Request
import HapVerif.Gen.Scalars
import HapVerif.Gen.Schemas
import HapVerif.Gen.Srp
import HapVerif.Gen.Status
import HapVerif.Gen.Tlv
import HapVerif.Model.BleMeta
import HapVerif.Model.BleReassembly
import HapVerif.Model.BleSession
import HapVerif.Model.Broadcast
import HapVerif.Model.CharList
import HapVerif.Model.CoapEvent
import HapVerif.Model.Convert
import HapVerif.Model.Counters
import HapVerif.Model.Crypto.Abstract
import HapVerif.Model.Crypto.Real
import HapVerif.Model.EntityMap
import HapVerif.Model.Http
import HapVerif.Model.PairSetup
import HapVerif.Model.PairVerify
import HapVerif.Model.Pdu
import HapVerif.Model.Protocol
import HapVerif.Model.Reconnect
import HapVerif.Model.ReqConn
import HapVerif.Model.Request
import HapVerif.Model.SecureFrame
import HapVerif.Model.Srp
import HapVerif.Model.Store
import HapVerif.Model.Subs
import HapVerif.Model.Tlv
import HapVerif.Model.Tlv8Struct
import HapVerif.Model.Waiters
import HapVerif.Spec.Frames
import HapVerif.Spec.HttpWriter
import HapVerif.Spec.IosRequest
import HapVerif.Spec.Pdu
import HapVerif.Spec.SetupAccessory
import HapVerif.Spec.SrpServer
import HapVerif.Spec.Tlv8
import HapVerif.Spec.VerifyAccessory
import HapVerif.Proofs.BleMeta
import HapVerif.Proofs.BleMetaGen
import HapVerif.Proofs.Bytes
import HapVerif.Proofs.CharList
import HapVerif.Proofs.CoapEvent
import HapVerif.Proofs.Convert
import HapVerif.Proofs.CryptoIdeal
import HapVerif.Proofs.EntityMap
import HapVerif.Proofs.EntityMapGen
import HapVerif.Proofs.ExceptDo
import HapVerif.Proofs.Http
import HapVerif.Proofs.HttpFeed
import HapVerif.Proofs.HttpWriter
import HapVerif.Proofs.PairSetup
import HapVerif.Proofs.PairVerify
import HapVerif.Proofs.Pdu
import HapVerif.Proofs.Reconnect
import HapVerif.Proofs.ReconnectFuel
import HapVerif.Proofs.ReconnectObs
import HapVerif.Proofs.ReconnectOps
import HapVerif.Proofs.ReconnectSilent
import HapVerif.Proofs.ReqConn
import HapVerif.Proofs.SecureFrame
import HapVerif.Proofs.Sha512
import HapVerif.Proofs.Srp
import HapVerif.Proofs.SrpGen
import HapVerif.Proofs.Subs
import HapVerif.Proofs.Tlv
import HapVerif.Proofs.Tlv8Array
import HapVerif.Proofs.Tlv8Struct
import HapVerif.Props.C01
import HapVerif.Props.C02
import HapVerif.Props.C03
import HapVerif.Props.C04
import HapVerif.Props.C05
import HapVerif.Props.C06
import HapVerif.Props.C07
import HapVerif.Props.C08
import HapVerif.Props.C09
import HapVerif.Props.C10
import HapVerif.Props.C11
import HapVerif.Props.C12
import HapVerif.Props.C13
import HapVerif.Props.C14
import HapVerif.Props.C15
import HapVerif.Props.C16
import HapVerif.Props.C17
import HapVerif.Props.C18
import HapVerif.Props.C19
import HapVerif.Props.C20
import HapVerif.Drv.BleMeta
import HapVerif.Drv.BleReassembly
import HapVerif.Drv.BleSession
import HapVerif.Drv.Broadcast
import HapVerif.Drv.CharList
import HapVerif.Drv.CoapEvent
import HapVerif.Drv.Convert
import HapVerif.Drv.Counters
import HapVerif.Drv.Crypto
import HapVerif.Drv.EntityMap
import HapVerif.Drv.Http
import HapVerif.Drv.PairSetup
import HapVerif.Drv.PairVerify
import HapVerif.Drv.Pdu
import HapVerif.Drv.Protocol
import HapVerif.Drv.Reconnect
import HapVerif.Drv.ReqConn
import HapVerif.Drv.Request
import HapVerif.Drv.SecureFrame
import HapVerif.Drv.Srp
import HapVerif.Drv.Store
import HapVerif.Drv.Subs
import HapVerif.Drv.Tlv
import HapVerif.Drv.Tlv8Struct
import HapVerif.Drv.Waiters
